/-
  Model of sdes.rs: the eager chunk / item scanner, the item accessors, and the three builders.
  Loops run on the real offsets by well-founded recursion; the termination proofs are part of
  the model (each item advances by ≥ 2 bytes, each chunk by ≥ 4).
-/
import Rtcp.Impl.Utils

namespace Rtcp.Impl
open Rtcp

/-- A parsed item: `data: &[u8]` (type, length, value bytes) and where it sits in the packet. -/
structure SdesItem where
  off : Nat
  data : Bytes
deriving DecidableEq, Repr

namespace SdesItem

def PRIV : UInt8 := 8

def type {ε : Type} (it : SdesItem) : R ε UInt8 := idx it.data 0
def length {ε : Type} (it : SdesItem) : R ε Nat := do pure (← idx it.data 1).toNat

/-- `priv_prefix_len`: panics (documented) if the item is not a PRIV. -/
def privPrefixLen {ε : Type} (it : SdesItem) : R ε UInt8 := do
  if (← it.type) != PRIV then .panic else idx it.data 2

/-- `priv_prefix_len() as u16 + 3` (with `debug_assert!(type == PRIV)`) -/
def privValueOffset {ε : Type} (it : SdesItem) : R ε Nat := do
  if (← it.type) != PRIV then .panic else pure ((← it.privPrefixLen).toNat + 3)

def value {ε : Type} (it : SdesItem) : R ε Slice := do
  if (← it.type) == PRIV then
    let o ← it.privValueOffset
    sliceS it.off it.data o it.data.length
  else
    sliceS it.off it.data 2 it.data.length

def privPrefix {ε : Type} (it : SdesItem) : R ε Slice := do
  if (← it.type) != PRIV then .panic
  else
    let l ← it.privPrefixLen
    sliceS it.off it.data 3 (3 + l.toNat)

/-- `SdesItem::parse(data)`; `base` is the offset of `data` in the packet. Returns the item and
    the number of bytes consumed. -/
def parse (base : Nat) (d : Bytes) : R ParseError (SdesItem × Nat) := do
  if d.length < 2 then
    .err (.truncated 2 d.length)
  else
    let length := (← idx d 1).toNat
    let e := 2 + length
    if e > d.length then
      .err (.truncated e d.length)
    else if length > 255 then
      .err (.sdesValueTooLarge length 255)
    else
      let item : SdesItem := ⟨base, d.take e⟩
      if (← item.type) == PRIV then
        if item.data.length < 3 then
          .err (.truncated 3 item.data.length)
        else
          let prefixLen ← item.privPrefixLen
          let valueOffset ← item.privValueOffset
          if valueOffset > item.data.length then
            -- `length as u8 - 1`
            let av ← usub (length % 256) 1
            .err (.sdesPrivPrefixTooLarge prefixLen.toNat av.toUInt8)
          else pure (item, e)
      else pure (item, e)

theorem parse_consumed {base : Nat} {d : Bytes} {it : SdesItem} {e : Nat}
    (h : parse base d = .ok (it, e)) : 2 ≤ e ∧ e ≤ d.length := by
  unfold parse at h
  obtain ⟨_, h⟩ := R.of_ite_err h
  obtain ⟨l, -, h⟩ := R.of_bind h
  obtain ⟨hle, h⟩ := R.of_ite_err h
  obtain ⟨-, h⟩ := R.of_ite_err h
  obtain ⟨ty, -, h⟩ := R.of_bind h
  -- `by_cases`, not `split`: splitting the outer `if` with the PRIV branch inside it is dear
  by_cases hty : (ty == PRIV) = true
  · rw [if_pos hty] at h
    obtain ⟨-, h⟩ := R.of_ite_err h
    obtain ⟨p, -, h⟩ := R.of_bind h
    obtain ⟨vo, -, h⟩ := R.of_bind h
    split at h
    · obtain ⟨av, -, h⟩ := R.of_bind h
      cases h
    · cases h; exact ⟨Nat.le_add_right 2 _, Nat.not_lt.mp hle⟩
  · rw [if_neg hty] at h
    cases h; exact ⟨Nat.le_add_right 2 _, Nat.not_lt.mp hle⟩

end SdesItem

structure SdesChunk where
  ssrc : UInt32
  items : List SdesItem
deriving DecidableEq, Repr

namespace SdesChunk

/-- The item loop of `SdesChunk::parse`: stops after a zero type byte (consuming it) or at the end. -/
def itemLoop (base : Nat) (d : Bytes) (off : Nat) (acc : List SdesItem) :
    R ParseError (List SdesItem × Nat) :=
  if h : off < d.length then
    if d[off] == 0 then .ok (acc, off + 1)
    else
      match hp : SdesItem.parse (base + off) (d.drop off) with
      | .ok (item, e) => itemLoop base d (off + e) (acc ++ [item])
      | .err er => .err er
      | .panic => .panic
  else .ok (acc, off)
termination_by d.length - off
decreasing_by
  have := SdesItem.parse_consumed hp
  omega

/-- `while offset < fill_end && data[offset] == 0 { offset += 1 }` -/
def skipZeros (d : Bytes) (off fillEnd : Nat) : Nat :=
  if off < fillEnd ∧ d[off]? = some 0 then skipZeros d (off + 1) fillEnd else off
termination_by fillEnd - off

/-- `SdesChunk::parse(data)`; `base` is the offset of `data` in the packet. -/
def parse (base : Nat) (d : Bytes) : R ParseError (SdesChunk × Nat) := do
  if d.length < 4 then
    .err (.truncated 4 d.length)
  else
    let ssrc ← fromBe32 (← slice d 0 4)
    let (items, off) ←
      if d.length > 4 then do
        let (items, off) ← itemLoop base d 4 []
        let fillEnd := min (pad4 off) d.length
        pure (items, skipZeros d off fillEnd)
      else pure ([], 4)
    if pad4 off != off then
      .err (.truncated (pad4 off) off)
    else pure (⟨ssrc, items⟩, off)

/-- `length()`: 4 + Σ (2 + item.length()) + 1, padded to 4. -/
def length {ε : Type} (c : SdesChunk) : R ε Nat := do
  let ls ← c.items.mapM (fun it => it.length)
  pure (pad4 (4 + (ls.map (2 + ·)).sum + 1))

end SdesChunk

structure Sdes where
  data : Bytes
  chunks : List SdesChunk
deriving DecidableEq, Repr

namespace Sdes

theorem itemLoop_ge (base : Nat) (d : Bytes) (off : Nat) (acc : List SdesItem)
    {items : List SdesItem} {e : Nat}
    (h : SdesChunk.itemLoop base d off acc = .ok (items, e)) : off ≤ e := by
  fun_induction SdesChunk.itemLoop base d off acc with
  | case1 off acc hlt hz => cases h; exact Nat.le_succ _
  | case2 off acc hlt hz item e' hp ih => exact Nat.le_trans (Nat.le_add_right off e') (ih h)
  | case3 off acc hlt hz er hp => cases h
  | case4 off acc hlt hz hp => cases h
  | case5 off acc hge => cases h; exact Nat.le_refl _

theorem skipZeros_ge (d : Bytes) (off fillEnd : Nat) : off ≤ SdesChunk.skipZeros d off fillEnd := by
  fun_induction SdesChunk.skipZeros d off fillEnd with
  | case1 off h ih => exact Nat.le_trans (Nat.le_succ off) ih
  | case2 off h => exact Nat.le_refl off

theorem chunk_consumed {base : Nat} {d : Bytes} {c : SdesChunk} {e : Nat}
    (h : SdesChunk.parse base d = .ok (c, e)) : 4 ≤ e := by
  unfold SdesChunk.parse at h
  obtain ⟨_, h⟩ := R.of_ite_err h
  obtain ⟨s, -, h⟩ := R.of_bind h
  obtain ⟨ssrc, -, h⟩ := R.of_bind h
  split at h
  · obtain ⟨⟨items, off⟩, hloop, h⟩ := R.of_bind h
    obtain ⟨-, h⟩ := R.of_ite_err h
    cases h
    exact Nat.le_trans (itemLoop_ge _ _ _ _ hloop) (skipZeros_ge d off _)
  · simp only [R.pure_eq, R.ok_bind] at h
    obtain ⟨-, h⟩ := R.of_ite_err h
    cases h
    exact Nat.le_refl 4

/-- `while offset < chunks_end { let (chunk, end) = SdesChunk::parse(&data[offset..chunks_end])?; .. }` -/
def chunkLoop (d : Bytes) (chunksEnd : Nat) (off : Nat) (acc : List SdesChunk) :
    R ParseError (List SdesChunk) :=
  if h : off < chunksEnd then
    match hs : (slice d off chunksEnd : R ParseError Bytes) with
    | .ok s =>
      match hp : SdesChunk.parse off s with
      | .ok (c, e) => chunkLoop d chunksEnd (off + e) (acc ++ [c])
      | .err er => .err er
      | .panic => .panic
    | .err er => .err er
    | .panic => .panic
  else .ok acc
termination_by chunksEnd - off
decreasing_by
  have := chunk_consumed hp
  omega

def parse (d : Bytes) : R ParseError Sdes := do
  checkPacket 4 202 d
  let padding := ((← parsePadding d).getD 0).toNat
  if d.length < 4 + padding then
    .err (.truncated (4 + padding) d.length)
  else
    let chunksEnd := d.length - padding
    let chunks ← if chunksEnd > 4 then chunkLoop d chunksEnd 4 [] else pure []
    pure ⟨d, chunks⟩

def padding {ε : Type} (s : Sdes) : R ε (Option UInt8) := parsePadding s.data

end Sdes

/-! ## Builders -/

structure SdesItemBuilder where
  type : UInt8
  value : Bytes
  prefix_ : Bytes := []
deriving DecidableEq, Repr

namespace SdesItemBuilder

def calcSize (b : SdesItemBuilder) : R WriteError Nat :=
  let valueLen := b.value.length
  if b.type == SdesItem.PRIV then
    let prefixLen := b.prefix_.length
    if prefixLen + 1 > 255 then
      .err (.sdesPrivPrefixTooLarge prefixLen 254)
    else if prefixLen + 1 + valueLen > 255 then
      -- `VALUE_MAX_LEN - 1 - prefix_len as u8`
      .err (.sdesValueTooLarge valueLen (254 - prefixLen % 256).toUInt8)
    else .ok (3 + prefixLen + valueLen)
  else
    if valueLen > 255 then .err (.sdesValueTooLarge valueLen 255)
    else .ok (2 + valueLen)

def writeUnchecked (b : SdesItemBuilder) (buf : Bytes) : R WriteError (Bytes × Nat) := do
  let valueLen := b.value.length
  let buf ← setByte buf 0 b.type
  if b.type == SdesItem.PRIV then
    let prefixLen := b.prefix_.length
    let buf ← setByte buf 1 ((prefixLen + 1 + valueLen) % 256).toUInt8
    let buf ← setByte buf 2 (prefixLen % 256).toUInt8
    let e := prefixLen + 3
    let buf ← copyAt buf 3 e b.prefix_
    let i := e
    let e := e + valueLen
    let buf ← copyAt buf i e b.value
    pure (buf, e)
  else
    let buf ← setByte buf 1 (valueLen % 256).toUInt8
    let e := valueLen + 2
    let buf ← copyAt buf 2 e b.value
    pure (buf, e)

/-- `SdesItemBuilder::write_into` (hand-written copy of the blanket). -/
def writeInto (b : SdesItemBuilder) (buf : Bytes) : Bytes × R WriteError Nat :=
  Impl.writeInto b.calcSize b.writeUnchecked buf

/-- `into_owned` -/
def intoOwned (b : SdesItemBuilder) : SdesItemBuilder :=
  { type := b.type, prefix_ := b.prefix_, value := b.value }

end SdesItemBuilder

structure SdesChunkBuilder where
  ssrc : UInt32
  items : List SdesItemBuilder := []
deriving DecidableEq, Repr

namespace SdesChunkBuilder

def itemSizes : List SdesItemBuilder → Nat → R WriteError Nat
  | [], acc => .ok acc
  | it :: rest, acc =>
    match it.calcSize with
    | .ok n => itemSizes rest (acc + n)
    | .err e => .err e
    | .panic => .panic

def calcSize (b : SdesChunkBuilder) : R WriteError Nat := do
  let itemsSize ← itemSizes b.items 0
  pure (pad4 (4 + itemsSize + 1))

/-- `for item in items { idx += item.write_into_unchecked(&mut buf[idx..]) }` -/
def writeItems : List SdesItemBuilder → Bytes → Nat → R WriteError (Bytes × Nat)
  | [], buf, i => .ok (buf, i)
  | it :: rest, buf, i =>
    match withTail buf i it.writeUnchecked with
    | .ok (buf, n) => writeItems rest buf (i + n)
    | .err e => .err e
    | .panic => .panic

def writeUnchecked (b : SdesChunkBuilder) (buf : Bytes) : R WriteError (Bytes × Nat) := do
  let buf ← copyAt buf 0 4 (be32 b.ssrc)
  let (buf, i) ← writeItems b.items buf 4
  let e := pad4 (i + 1)
  let buf ← if e > i then fillAt buf i e 0 else pure buf
  pure (buf, e)

def writeInto (b : SdesChunkBuilder) (buf : Bytes) : Bytes × R WriteError Nat :=
  Impl.writeInto b.calcSize b.writeUnchecked buf

end SdesChunkBuilder

structure SdesBuilder where
  padding : UInt8 := 0
  chunks : List SdesChunkBuilder := []
deriving DecidableEq, Repr

namespace SdesBuilder

def chunkSizes : List SdesChunkBuilder → Nat → R WriteError Nat
  | [], acc => .ok acc
  | c :: rest, acc =>
    match c.calcSize with
    | .ok n => chunkSizes rest (acc + n)
    | .err e => .err e
    | .panic => .panic

def calcSize (b : SdesBuilder) : R WriteError Nat := do
  if b.chunks.length > 31 then
    .err (.tooManySdesChunks b.chunks.length 31)
  else
    checkPadding b.padding
    let chunksSize ← chunkSizes b.chunks 0
    checkPacketLen (4 + chunksSize + b.padding.toNat)

/-- `for chunk in chunks { idx += chunk.write_into_unchecked(&mut buf[idx..]) }` -/
def writeChunks : List SdesChunkBuilder → Bytes → Nat → R WriteError (Bytes × Nat)
  | [], buf, i => .ok (buf, i)
  | c :: rest, buf, i =>
    match withTail buf i c.writeUnchecked with
    | .ok (buf, n) => writeChunks rest buf (i + n)
    | .err e => .err e
    | .panic => .panic

def writeUnchecked (b : SdesBuilder) (buf : Bytes) : R WriteError (Bytes × Nat) := do
  let buf ← writeHeader 202 b.padding (b.chunks.length % 256).toUInt8 buf
  let (buf, i) ← writeChunks b.chunks buf 4
  let (buf, k) ← withTail buf i (writePadding b.padding)
  pure (buf, i + k)

def toWriter (b : SdesBuilder) : Writer := ⟨b.calcSize, b.writeUnchecked, getPaddingOf b.padding⟩

end SdesBuilder

end Rtcp.Impl
