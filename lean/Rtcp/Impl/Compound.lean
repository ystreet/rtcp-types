/-
  Model of compound.rs: the `Packet` dispatch enum and its conversion matrix, `Compound::parse`
  and its iterator, `PacketBuilder`, `CompoundBuilder`; plus the third-party family `Custom`
  (PROTOCOL.md §6) written only with the public helpers, as tests/custom_packet.rs does.
-/
import Rtcp.Impl.Packets
import Rtcp.Impl.Sdes
import Rtcp.Impl.Feedback

namespace Rtcp.Impl
open Rtcp

/-- `enum Packet` -/
inductive Packet where
  | app (d : Bytes)
  | bye (d : Bytes)
  | rr (d : Bytes)
  | sdes (s : Sdes)
  | sr (d : Bytes)
  | tfb (d : Bytes)
  | pfb (d : Bytes)
  | unknown (d : Bytes)
deriving DecidableEq, Repr

/-- The seven typed parsers a `Packet` can be converted to. -/
inductive Kind | app | bye | rr | sdes | sr | tfb | pfb
deriving DecidableEq, Repr

def Kind.all : List Kind := [.app, .bye, .rr, .sdes, .sr, .tfb, .pfb]

def Kind.pt : Kind → UInt8
  | .app => 204 | .bye => 203 | .rr => 201 | .sdes => 202 | .sr => 200 | .tfb => 205 | .pfb => 206

/-- `<T as RtcpPacketParser>::parse(data).map(Packet::T)` -/
def Kind.parse : Kind → Bytes → R ParseError Packet
  | .app, d => Packet.app <$> App.parse d
  | .bye, d => Packet.bye <$> Bye.parse d
  | .rr, d => Packet.rr <$> Rr.parse d
  | .sdes, d => Packet.sdes <$> Sdes.parse d
  | .sr, d => Packet.sr <$> Sr.parse d
  | .tfb, d => Packet.tfb <$> Fb.parse .transport d
  | .pfb, d => Packet.pfb <$> Fb.parse .payload d

namespace Packet

/-- The bytes a packet view was parsed from. -/
def data : Packet → Bytes
  | .app d | .bye d | .rr d | .sr d | .tfb d | .pfb d | .unknown d => d
  | .sdes s => s.data

def kind? : Packet → Option Kind
  | .app _ => some .app | .bye _ => some .bye | .rr _ => some .rr | .sdes _ => some .sdes
  | .sr _ => some .sr | .tfb _ => some .tfb | .pfb _ => some .pfb | .unknown _ => none

/-- `Packet::parse` -/
def parse (d : Bytes) : R ParseError Packet := do
  if d.length < 4 then
    .err (.truncated 4 d.length)
  else
    let t ← parsePacketType d
    if t == 204 then Kind.parse .app d
    else if t == 203 then Kind.parse .bye d
    else if t == 201 then Kind.parse .rr d
    else if t == 202 then Kind.parse .sdes d
    else if t == 200 then Kind.parse .sr d
    else if t == 206 then Kind.parse .pfb d
    else if t == 205 then Kind.parse .tfb d
    else Packet.unknown <$> Unknown.parse d

/-- `TryFrom<&Packet> for T` (and `TryFrom<Packet>`): the whole 8×7 matrix. -/
def tryAs (k : Kind) (p : Packet) : R ParseError Packet :=
  match p with
  | .unknown d => k.parse d
  | _ =>
    if p.kind? = some k then .ok p
    else do
      let t ← hType p.data
      .err (.packetTypeMismatch t k.pt)

end Packet

/-! ## Compound -/

structure Compound where
  data : Bytes
  offset : Nat
  isOver : Bool
deriving DecidableEq, Repr

namespace Compound

theorem parseLength_ge {d : Bytes} {n : Nat} (h : (parseLength d : R ParseError Nat) = .ok n) : 4 ≤ n := by
  unfold parseLength at h
  obtain ⟨s, -, h⟩ := R.of_bind h
  obtain ⟨l, -, h⟩ := R.of_bind h
  cases h
  omega

/-- The validation loop of `Compound::parse`. -/
def parseLoop (d : Bytes) (off : Nat) : R ParseError Unit :=
  if h : off < d.length then
    if d.length < off + 4 then .err (.truncated (off + 4) d.length)
    else
      match hs : (sliceFrom d off : R ParseError Bytes) with
      | .ok rest =>
        match hl : (parseLength rest : R ParseError Nat) with
        | .ok pl =>
          if d.length < off + pl then .err (.truncated (off + pl) d.length)
          else parseLoop d (off + pl)
        | .err e => .err e
        | .panic => .panic
      | .err e => .err e
      | .panic => .panic
  else .ok ()
termination_by d.length - off
decreasing_by
  have := parseLength_ge hl
  omega

def parse (d : Bytes) : R ParseError Compound :=
  if d.isEmpty then .err (.truncated 4 0)
  else
    match parseLoop d 0 with
    | .ok () => .ok ⟨d, 0, false⟩
    | .err e => .err e
    | .panic => .panic

/-- `Iterator::next`: the item (a `Result<Packet, _>`), the offset of its tile, and the new state. -/
def next {ε : Type} (c : Compound) : R ε (Option (R ParseError Packet × Nat) × Compound) :=
  if c.isOver then .ok (none, c)
  else do
    let rest ← sliceFrom c.data c.offset
    let pl ← parseLength rest
    let tile ← slice c.data c.offset (c.offset + pl)
    match Packet.parse tile with
    | .panic => .panic
    | res =>
      let off := c.offset + pl
      let over := !res.isOk || off ≥ c.data.length
      pure (some (res, c.offset), { c with offset := off, isOver := over })

/-- Drive the iterator; `Bool` is false when the fuel ran out before `None`. Also returns the final state. -/
def collect {ε : Type} : Nat → Compound → List (R ParseError Packet × Nat) →
    R ε (List (R ParseError Packet × Nat) × Bool × Compound)
  | 0, c, acc => .ok (acc, false, c)
  | fuel + 1, c, acc =>
    match (next c : R ε _) with
    | .ok (some it, c') => collect fuel c' (acc ++ [it])
    | .ok (none, c') => .ok (acc, true, c')
    | .err e => .err e
    | .panic => .panic

end Compound

/-! ## PacketBuilder and CompoundBuilder -/

inductive PacketBuilder where
  | app (b : AppBuilder)
  | bye (b : ByeBuilder)
  | rr (b : RrBuilder)
  | sdes (b : SdesBuilder)
  | sr (b : SrBuilder)
  | tfb (b : FbBuilder)
  | pfb (b : FbBuilder)
  | unknown (b : UnknownBuilder)

def PacketBuilder.toWriter : PacketBuilder → Writer
  | .app b => ⟨b.calcSize, b.writeUnchecked, getPaddingOf b.padding⟩
  | .bye b => ⟨b.calcSize, b.writeUnchecked, getPaddingOf b.padding⟩
  | .rr b => ⟨b.calcSize, b.writeUnchecked, getPaddingOf b.padding⟩
  | .sdes b => ⟨b.calcSize, b.writeUnchecked, getPaddingOf b.padding⟩
  | .sr b => ⟨b.calcSize, b.writeUnchecked, getPaddingOf b.padding⟩
  | .tfb b => ⟨b.calcSize, b.writeUnchecked, getPaddingOf b.padding⟩
  | .pfb b => ⟨b.calcSize, b.writeUnchecked, getPaddingOf b.padding⟩
  | .unknown b => ⟨b.calcSize, b.writeUnchecked, getPaddingOf b.padding⟩

namespace CompoundBuilder

/-- the `for (idx, packet) in packets.iter().enumerate()` loop of `calculate_size` -/
def sizeLoop (last : Nat) : List Writer → Nat → Nat → R WriteError Nat
  | [], _, size => .ok size
  | m :: rest, i, size =>
    match m.calcSize with
    | .ok n =>
      if (m.getPadding.getD 0) > 0 && i != last then .err .nonLastCompoundPacketPadding
      else sizeLoop last rest (i + 1) (size + n)
    | .err e => .err e
    | .panic => .panic

def calcSize (ms : List Writer) : R WriteError Nat :=
  sizeLoop (ms.length - 1) ms 0 0

/-- `let req = packet.calculate_size().unwrap(); offset += packet.write_into_unchecked(&mut buf[offset..offset + req])` -/
def writeLoop : List Writer → Bytes → Nat → R WriteError (Bytes × Nat)
  | [], buf, off => .ok (buf, off)
  | m :: rest, buf, off =>
    match m.calcSize with
    | .ok req =>
      match withRange buf off (off + req) m.write with
      | .ok (buf, n) => writeLoop rest buf (off + n)
      | .err e => .err e
      | .panic => .panic
    | _ => .panic

def writeUnchecked (ms : List Writer) (buf : Bytes) : R WriteError (Bytes × Nat) := writeLoop ms buf 0

def getPadding (ms : List Writer) : Option UInt8 :=
  match ms.getLast? with
  | some m => m.getPadding
  | none => none

def toWriter (ms : List Writer) : Writer := ⟨calcSize ms, writeUnchecked ms, getPadding ms⟩

end CompoundBuilder

/-! ## The third-party family (PROTOCOL.md §6) -/

namespace Custom

def parse (pt : UInt8) (min : Nat) (d : Bytes) : R ParseError Bytes := do
  checkPacket min pt d
  match (← parsePadding d) with
  | some p =>
    let minLen := min + p.toNat
    if d.length < minLen then .err (.truncated minLen d.length) else pure d
  | none => pure d

def padding {ε : Type} (d : Bytes) : R ε (Option UInt8) := parsePadding d

def body {ε : Type} (d : Bytes) : R ε Slice := do
  let p ← parsePadding d
  let e ← usub d.length (p.getD 0).toNat
  sliceS 0 d 4 e

end Custom

structure CustomBuilder where
  pt : UInt8
  min : Nat
  body : Bytes
  padding : UInt8 := 0
deriving DecidableEq, Repr

namespace CustomBuilder

def bodyEnd (b : CustomBuilder) : Nat := max (4 + b.body.length) b.min

def calcSize (b : CustomBuilder) : R WriteError Nat := do
  checkPadding b.padding
  if b.body.length % 4 != 0 then .err (.dataLen32bitMultiple b.body.length)
  else pure (b.bodyEnd + b.padding.toNat)

def writeUnchecked (b : CustomBuilder) (buf : Bytes) : R WriteError (Bytes × Nat) := do
  let buf ← writeHeader b.pt b.padding 0 buf
  let e := 4 + b.body.length
  let buf ← copyAt buf 4 e b.body
  let buf ← fillAt buf e b.bodyEnd 0
  let (buf, k) ← withTail buf b.bodyEnd (writePadding b.padding)
  pure (buf, b.bodyEnd + k)

def toWriter (b : CustomBuilder) : Writer := ⟨b.calcSize, b.writeUnchecked, getPaddingOf b.padding⟩

end CustomBuilder

end Rtcp.Impl
