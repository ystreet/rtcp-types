/-
  What a parser does on one input, said in three strengths.
  `Parses x A T`: a value satisfying `A`, or an error satisfying `T`, never a panic; enough for
  totality (C01) and truthful errors (C18), and all that can be said when the value is not known.
  `Outcome x a P T`: the value `a` is known and `P` is exactly the acceptance condition (C08); a chain
  of guards and binds is an `Outcome` (`guard`, `guard_lt`, `bind`).
  `Agrees E P x o`: against the outcome `o` of a reference decoder (C10); closed under `>>=`.
  The last two are `Parses` (`.parses`).  `Outcome` and `Agrees` are introduced by `.ok`, `.err` (and
  `guard`, `bind`); all three are eliminated by `of_ok`, `of_err` (`of_some`, `accepts`, `ok_iff`), `no_panic`.
-/
import Rtcp.Basic

namespace Rtcp.Proofs
open Rtcp

def Parses {α : Type} (x : R ParseError α) (A : α → Prop) (T : ParseError → Prop) : Prop :=
  (∃ a, x = .ok a ∧ A a) ∨ (∃ e, x = .err e ∧ T e)

namespace Parses
variable {α β : Type} {x : R ParseError α} {A : α → Prop} {T : ParseError → Prop}

theorem of_ok (h : Parses x A T) {a : α} (hx : x = .ok a) : A a := by
  rcases h with ⟨a', h', ha⟩ | ⟨e, h', -⟩ <;> cases h'.symm.trans hx
  exact ha

theorem of_err (h : Parses x A T) {e : ParseError} (hx : x = .err e) : T e := by
  rcases h with ⟨a, h', -⟩ | ⟨e', h', ht⟩ <;> cases h'.symm.trans hx
  exact ht

theorem no_panic (h : Parses x A T) : x ≠ .panic := by
  rcases h with ⟨a, h', -⟩ | ⟨e, h', -⟩ <;> exact fun hx => nomatch h'.symm.trans hx

theorem map (f : α → β) {B : β → Prop} (h : Parses x A T) (hf : ∀ a, A a → B (f a)) :
    Parses (f <$> x) B T := by
  rcases h with ⟨a, rfl, ha⟩ | ⟨e, rfl, ht⟩
  · exact .inl ⟨f a, rfl, hf a ha⟩
  · exact .inr ⟨e, rfl, ht⟩

end Parses

def Outcome {α : Type} (x : R ParseError α) (a : α) (P : Prop) (T : ParseError → Prop) : Prop :=
  (x = .ok a ∧ P) ∨ (∃ e, x = .err e ∧ T e ∧ ¬ P)

namespace Outcome
variable {α β : Type} {x : R ParseError α} {a : α} {P Q : Prop} {T : ParseError → Prop}

theorem parses (h : Outcome x a P T) : Parses x (fun v => v = a ∧ P) T := by
  rcases h with ⟨hx, hp⟩ | ⟨e, hx, ht, -⟩
  · exact .inl ⟨a, hx, rfl, hp⟩
  · exact .inr ⟨e, hx, ht⟩

theorem ok_iff (h : Outcome x a P T) (v : α) : x = .ok v ↔ v = a ∧ P := by
  rcases h with ⟨rfl, hp⟩ | ⟨e, rfl, -, hp⟩
  · exact ⟨fun h => ⟨(R.ok.inj h).symm, hp⟩, fun h => h.1 ▸ rfl⟩
  · exact ⟨nofun, fun h => absurd h.2 hp⟩

theorem accepts (h : Outcome x a P T) : x = .ok a ↔ P := (h.ok_iff a).trans (and_iff_right rfl)

theorem no_panic (h : Outcome x a P T) : x ≠ .panic := h.parses.no_panic

theorem of_err (h : Outcome x a P T) {e : ParseError} (he : x = .err e) : T e := h.parses.of_err he

theorem of_map_ok {f : α → β} {b : β} (h : Outcome x a P T) (hb : f <$> x = .ok b) : x = .ok a := by
  rcases h with ⟨rfl, -⟩ | ⟨e, rfl, -⟩
  · rfl
  · cases hb

theorem congr (h : Outcome x a P T) (hpq : P ↔ Q) : Outcome x a Q T := propext hpq ▸ h

/-! `Q` is the acceptance condition of the whole parser from the start: every guard has to be refuted
    by it, and at the end it has to follow from the guards that were passed. -/

theorem ok (h : Q) : Outcome (.ok a) a Q T := .inl ⟨rfl, h⟩

theorem err {e : ParseError} (ht : T e) (hq : ¬ Q) : Outcome (.err e) a Q T := .inr ⟨e, rfl, ht, hq⟩

theorem guard {c : Prop} [Decidable c] {e : ParseError} (he : c → T e) (hq : Q → ¬ c)
    (h : ¬ c → Outcome x a Q T) : Outcome (if c then .err e else x) a Q T := by
  by_cases hc : c
  · rw [if_pos hc]; exact .err (he hc) fun h => hq h hc
  · rw [if_neg hc]; exact h hc

/-- the guard `if m < n { return Err(e) }`: the continuation and the acceptance condition speak of `n ≤ m` -/
theorem guard_lt {m n : Nat} {e : ParseError} (he : m < n → T e) (hq : Q → n ≤ m)
    (h : n ≤ m → Outcome x a Q T) : Outcome (if m < n then .err e else x) a Q T :=
  guard he (fun q => Nat.not_lt.mpr (hq q)) fun hc => h (Nat.not_lt.mp hc)

theorem bind {f : α → R ParseError β} {b : β} (hx : Outcome x a P T) (hq : Q → P)
    (hf : P → Outcome (f a) b Q T) : Outcome (x >>= f) b Q T := by
  rcases hx with ⟨rfl, hp⟩ | ⟨e, rfl, ht, hp⟩
  · exact hf hp
  · exact .inr ⟨e, rfl, ht, fun h => hp (hq h)⟩

end Outcome

inductive Agrees {α β : Type} (E : ParseError → Prop) (P : α → β → Prop) :
    R ParseError α → Option β → Prop
  | ok {a : α} {b : β} : P a b → Agrees E P (.ok a) (some b)
  | err {e : ParseError} : E e → Agrees E P (.err e) none

namespace Agrees
variable {α β γ δ : Type} {E : ParseError → Prop} {P : α → β → Prop} {x : R ParseError α}
  {o : Option β}

theorem parses (h : Agrees E P x o) : Parses x (fun a => ∃ b, o = some b ∧ P a b) E := by
  cases h with
  | ok h => exact .inl ⟨_, rfl, _, rfl, h⟩
  | err h => exact .inr ⟨_, rfl, h⟩

theorem of_ok {a : α} (h : Agrees E P x o) (hx : x = .ok a) : ∃ b, o = some b ∧ P a b := h.parses.of_ok hx

theorem of_err {e : ParseError} (h : Agrees E P x o) (hx : x = .err e) : o = none ∧ E e := by
  subst hx; cases h with
  | err h => exact ⟨rfl, h⟩

theorem of_some {b : β} (h : Agrees E P x o) (ho : o = some b) : ∃ a, x = .ok a ∧ P a b := by
  subst ho; cases h with
  | ok h => exact ⟨_, rfl, h⟩

theorem no_panic (h : Agrees E P x o) : x ≠ .panic := h.parses.no_panic

theorem bind {Q : γ → δ → Prop} {f : α → R ParseError γ} {g : β → Option δ} (h : Agrees E P x o)
    (hfg : ∀ a b, P a b → Agrees E Q (f a) (g b)) : Agrees E Q (x >>= f) (o.bind g) := by
  cases h with
  | ok h => exact hfg _ _ h
  | err h => exact .err h

theorem map {Q : α → γ → Prop} (g : β → γ) (h : Agrees E P x o) (hpq : ∀ a b, P a b → Q a (g b)) :
    Agrees E Q x (o.map g) := by
  cases h with
  | ok h => exact .ok (hpq _ _ h)
  | err h => exact .err h

end Agrees

end Rtcp.Proofs
