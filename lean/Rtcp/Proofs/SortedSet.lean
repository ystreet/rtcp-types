/-
  `sortedInsert` keeps a strictly ascending list, i.e. a finite set in canonical form: it adds one
  member (`mem_sortedInsert`), keeps the list ascending (`sortedInsert_pairwise`), and an ascending list
  is determined by its members (`sorted_ext`, for builders `nack_ext`).  Everything else about NACK
  builders follows from these three.
-/
import Rtcp.Impl.Feedback

namespace Rtcp.Proofs
open Rtcp Rtcp.Impl

theorem mem_sortedInsert {x z : UInt16} {l : List UInt16} : z ∈ sortedInsert x l ↔ z = x ∨ z ∈ l := by
  -- the branches of `sortedInsert`: `[]`; `x < y`, insert here; `x == y`, already there; else go on
  fun_induction sortedInsert x l with
  | case1 => simp
  | case2 y ys _ => simp
  | case3 y ys _ h => simp [eq_of_beq h]
  | case4 y ys _ _ ih => simp [ih, or_left_comm]

theorem sortedInsert_pairwise (x : UInt16) {l : List UInt16} (h : l.Pairwise (· < ·)) :
    (sortedInsert x l).Pairwise (· < ·) := by
  fun_induction sortedInsert x l with
  | case1 => exact List.pairwise_singleton _ _
  | case2 y ys hxy =>
    refine List.pairwise_cons.mpr ⟨fun z hz => ?_, h⟩
    rcases List.mem_cons.mp hz with rfl | hz
    · exact hxy
    · exact UInt16.lt_trans hxy ((List.pairwise_cons.mp h).1 z hz)
  | case3 y ys _ _ => exact h
  | case4 y ys hxy hne ih =>
    rw [List.pairwise_cons] at h
    refine List.pairwise_cons.mpr ⟨fun z hz => ?_, ih h.2⟩
    rcases mem_sortedInsert.mp hz with rfl | hz
    · exact UInt16.lt_of_le_of_ne (UInt16.not_lt.mp hxy) (fun e => hne (e ▸ beq_self_eq_true _))
    · exact h.1 z hz

/-- core's `Perm.eq_of_pairwise`, with the permutation obtained from equal membership -/
theorem sorted_ext {l1 l2 : List UInt16} (h1 : l1.Pairwise (· < ·)) (h2 : l2.Pairwise (· < ·))
    (hm : ∀ z, z ∈ l1 ↔ z ∈ l2) : l1 = l2 :=
  List.Perm.eq_of_pairwise (fun _ _ _ _ hab hba => absurd hab (UInt16.lt_asymm hba)) h1 h2
    ((List.perm_ext_iff_of_nodup (h1.imp UInt16.ne_of_lt) (h2.imp UInt16.ne_of_lt)).mpr hm)

theorem nack_ext {a b : NackBuilder} (ha : a.rtpSeq.Pairwise (· < ·)) (hb : b.rtpSeq.Pairwise (· < ·))
    (h : ∀ x, x ∈ a.rtpSeq ↔ x ∈ b.rtpSeq) : a = b :=
  congrArg NackBuilder.mk (sorted_ext ha hb h)

end Rtcp.Proofs
