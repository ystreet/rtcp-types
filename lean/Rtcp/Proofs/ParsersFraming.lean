/-
  `checkPacket` and the typed parsers of the fixed-layout packets as `Outcome`s (Outcome.lean): the
  framing check, then one or two guards; and the header accessors on a well-framed packet.
-/
import Rtcp.Spec.All
import Rtcp.Proofs.ReadLemmas
import Rtcp.Proofs.Outcome

namespace Rtcp.Proofs
open Rtcp Rtcp.Impl Rtcp.Spec
open Rtcp.Proofs.Read

theorem version_err_truthful {bs : Bytes} (pt : UInt8) (hl : 1 ≤ bs.length) (h : ¬ version bs = 2) :
    ErrorTruthful bs pt (.unsupportedVersion (bs.getD 0 0 >>> 6)) :=
  ⟨hl, shr6 _, fun e => h (by rw [version, ← shr6, e]; rfl)⟩

theorem checkPacket_outcome (min : Nat) (pt : UInt8) (bs : Bytes) (h4 : 4 ≤ min) :
    Outcome (checkPacket min pt bs) () (WellFramed min pt bs) (ErrorTruthful bs pt) := by
  rw [checkPacket_eval min pt bs h4, wellFramed_iff]
  refine .guard_lt id (fun q => q.1) fun hm => ?_
  have h2 : 2 ≤ bs.length := Nat.le_trans (by decide) (Nat.le_trans h4 hm)
  exact .guard (version_err_truthful pt (Nat.le_of_succ_le h2)) (fun q => Decidable.not_not.mpr q.2.2.1) fun hv =>
    .guard (fun h => ⟨h2, rfl, rfl, h⟩) (fun q => Decidable.not_not.mpr q.2.2.2.1) fun ht =>
    .guard_lt id (fun q => Nat.le_of_eq q.2.2.2.2.1) fun hlt =>
    .guard_lt id (fun q => Nat.le_of_eq q.2.2.2.2.1.symm) fun hgt =>
    .guard id (fun q h => q.2.2.2.2.2 h.1 h.2) fun hp =>
    .ok ⟨hm, Nat.le_trans h4 hm, Decidable.not_not.mp hv, Decidable.not_not.mp ht, Nat.le_antisymm hlt hgt,
      fun h1 h2 => hp ⟨h1, h2⟩⟩

theorem wf_len {min : Nat} {pt : UInt8} {bs : Bytes} (h : WellFramed min pt bs) :
    min ≤ bs.length ∧ 4 ≤ bs.length ∧ lengthField bs = bs.length :=
  have ⟨a, b, _, _, c, _⟩ := (wellFramed_iff min pt bs).mp h; ⟨a, b, c⟩

theorem wf_pos {min : Nat} {pt : UInt8} {bs : Bytes} (h : WellFramed min pt bs) : 1 ≤ bs.length :=
  Nat.le_trans (by decide) (wf_len h).2.1

/-- what the accessors use of a view a typed parser accepted: the minimum length, a length field that is
    the length, and the parser's own bound -/
theorem Outcome.framed {x : R ParseError Bytes} {bs : Bytes} {min : Nat} {pt : UInt8} {P : Prop}
    {T : ParseError → Prop} (h : Outcome x bs (WellFramed min pt bs ∧ P) T) (hx : x = .ok bs) :
    min ≤ bs.length ∧ 4 ≤ bs.length ∧ lengthField bs = bs.length ∧ P :=
  have ⟨hw, hp⟩ := h.accepts.mp hx
  have ⟨a, b, c⟩ := wf_len hw
  ⟨a, b, c, hp⟩

/-- `RtcpPacketParserExt` reads the header through `data[..4]`; on four or more bytes that is no
    different from reading `data` -/
theorem header_eq {ε : Type} (bs : Bytes) (h : 4 ≤ bs.length) :
    (hVersion bs : R ε UInt8) = parseVersion bs ∧ (hType bs : R ε UInt8) = parsePacketType bs ∧
    (hCount bs : R ε UInt8) = parseCount bs ∧ (hLength bs : R ε Nat) = parseLength bs := by
  obtain ⟨a, b, c, d, rest, rfl⟩ := exists_cons4 h
  exact ⟨rfl, rfl, rfl, rfl⟩

theorem header_ok {ε : Type} (bs : Bytes) (h : 4 ≤ bs.length) :
    (hVersion bs : R ε UInt8) = .ok (bs.getD 0 0 >>> 6) ∧ (hType bs : R ε UInt8) = .ok (ptype bs) ∧
    (hCount bs : R ε UInt8) = .ok (count bs).toUInt8 ∧ (hLength bs : R ε Nat) = .ok (lengthField bs) := by
  obtain ⟨h1, h2, h3, h4⟩ := header_eq (ε := ε) bs h
  have h2' : 2 ≤ bs.length := Nat.le_trans (by decide) h
  exact ⟨h1.trans (parseVersion_ok bs (Nat.le_of_succ_le h2')), h2.trans (parsePacketType_ok bs h2'),
    h3.trans (parseCount_ok bs (Nat.le_of_succ_le h2')), h4.trans (parseLength_ok bs h)⟩

theorem hCount_ok {ε : Type} (bs : Bytes) (h : 4 ≤ bs.length) :
    (hCount bs : R ε UInt8) = .ok (count bs).toUInt8 := (header_ok bs h).2.2.1

theorem header_accessors {ε : Type} (min : Nat) (pt : UInt8) (bs : Bytes) (h4 : 4 ≤ min)
    (h : WellFramed min pt bs) :
    (hVersion bs : R ε UInt8) = .ok 2 ∧ (hType bs : R ε UInt8) = .ok pt ∧
    (hCount bs : R ε UInt8) = .ok (count bs).toUInt8 ∧ (hLength bs : R ε Nat) = .ok bs.length ∧
    (parsePadding bs : R ε (Option UInt8)) = .ok (paddingOf bs) ∧
    (∀ p, paddingOf bs = some p → p ≠ 0) := by
  have _ := h4  -- not needed; the statement is that of `Props.header_accessors`
  obtain ⟨-, hl4, hv, ht, hl, hp⟩ := (wellFramed_iff min pt bs).mp h
  obtain ⟨a1, a2, a3, a4⟩ := header_ok (ε := ε) bs hl4
  refine ⟨a1.trans (congrArg R.ok (UInt8.toNat_inj.mp ((shr6 _).trans hv))), ht ▸ a2, a3, hl ▸ a4,
    parsePadding_ok bs hl4 hl, fun p hpp => ?_⟩
  unfold paddingOf at hpp
  split at hpp
  · next hb => exact Option.some.inj hpp ▸ hp hb
  · cases hpp

/-- SR and RR: room for `count` report blocks after `min` octets.  The `do` block is what `Sr.parse` and
    `Rr.parse` unfold to; `sr_outcome`, `rr_outcome` below hold by that definitional equality -/
theorem reports_outcome (min : Nat) (pt : UInt8) (h4 : 4 ≤ min) (bs : Bytes) :
    Outcome (do checkPacket min pt bs
                let c ← parseCount bs
                if bs.length < min + c.toNat * 24 then .err (.truncated (min + c.toNat * 24) bs.length) else pure bs)
      bs (WellFramed min pt bs ∧ min + 24 * count bs ≤ bs.length) (ErrorTruthful bs pt) := by
  refine (checkPacket_outcome min pt bs h4).bind And.left fun hw => ?_
  rw [parseCount_ok bs (wf_pos hw), R.ok_bind, count_toUInt8_toNat, Nat.mul_comm]
  exact .guard_lt id And.right fun h => .ok ⟨hw, h⟩

theorem sr_outcome (bs : Bytes) :
    Outcome (Sr.parse bs) bs (WellFramed 28 200 bs ∧ 28 + 24 * count bs ≤ bs.length) (ErrorTruthful bs 200) :=
  reports_outcome 28 200 (by decide) bs

theorem rr_outcome (bs : Bytes) :
    Outcome (Rr.parse bs) bs (WellFramed 8 201 bs ∧ 8 + 24 * count bs ≤ bs.length) (ErrorTruthful bs 201) :=
  reports_outcome 8 201 (by decide) bs

theorem bye_outcome (bs : Bytes) :
    Outcome (Bye.parse bs) bs (WellFramed 4 203 bs ∧ 4 + 4 * count bs ≤ bs.length ∧
      (4 + 4 * count bs < bs.length → 4 + 4 * count bs + 1 + u8At bs (4 + 4 * count bs) ≤ bs.length))
      (ErrorTruthful bs 203) := by
  refine (checkPacket_outcome 4 203 bs (Nat.le_refl 4)).bind And.left fun hw => ?_
  rw [parseCount_ok bs (wf_pos hw), R.ok_bind, count_toUInt8_toNat]
  refine .guard_lt id (fun q => q.2.1) fun h1 => ?_
  split
  · next h2 =>
    rw [idx_ok bs _ h2, R.ok_bind]
    exact .guard_lt id (fun q => q.2.2 h2) fun h3 => .ok ⟨hw, h1, fun _ => h3⟩
  · next h2 => exact .ok ⟨hw, h1, fun h => absurd h h2⟩

/-- APP, feedback, third-party: room for the announced padding after `min` octets -/
theorem custom_outcome (pt : UInt8) (min : Nat) (h4 : 4 ≤ min) (bs : Bytes) :
    Outcome (Custom.parse pt min bs) bs (WellFramed min pt bs ∧ min + padLen bs ≤ bs.length)
      (ErrorTruthful bs pt) := by
  refine (checkPacket_outcome min pt bs h4).bind And.left fun hw => ?_
  obtain ⟨hm, hl4, hl⟩ := wf_len hw
  rw [parsePadding_ok bs hl4 hl, R.ok_bind]
  unfold padLen
  cases paddingOf bs with
  | none => exact .ok ⟨hw, hm⟩
  | some p => exact .guard_lt id And.right fun h => .ok ⟨hw, h⟩

theorem app_outcome (bs : Bytes) :
    Outcome (App.parse bs) bs (WellFramed 12 204 bs ∧ 12 + padLen bs ≤ bs.length) (ErrorTruthful bs 204) :=
  custom_outcome 204 12 (by decide) bs

theorem fb_outcome (k : FbKind) (bs : Bytes) :
    Outcome (Fb.parse k bs) bs (WellFramed 12 k.pt bs ∧ 12 + padLen bs ≤ bs.length) (ErrorTruthful bs k.pt) :=
  custom_outcome k.pt 12 (by decide) bs

theorem unknown_outcome (bs : Bytes) :
    Outcome (Unknown.parse bs) bs (UnknownFramed bs)
      (fun e => ErrorTruthful bs 0 e ∧ (∀ a r, e ≠ .packetTypeMismatch a r)) := by
  unfold Unknown.parse
  rw [unknownFramed_iff]
  refine .guard_lt (fun h => ⟨h, nofun⟩) (fun q => q.1) fun h4 => ?_
  rw [parseVersion_ok bs (Nat.le_trans (by decide) h4), R.ok_bind, parseLength_ok bs h4]
  simp only [bne2, shr6, decide_eq_true_eq, R.ok_bind]
  exact .guard (fun h => ⟨version_err_truthful 0 (Nat.le_trans (by decide) h4) h, nofun⟩)
      (fun q => Decidable.not_not.mpr q.2.1) fun hv =>
    .guard_lt (fun h => ⟨h, nofun⟩) (fun q => Nat.le_of_eq q.2.2) fun hlt =>
    .guard_lt (fun h => ⟨h, nofun⟩) (fun q => Nat.le_of_eq q.2.2.symm) fun hgt =>
    .ok ⟨h4, Decidable.not_not.mp hv, Nat.le_antisymm hlt hgt⟩

theorem rb_outcome (bs : Bytes) :
    Outcome (ReportBlock.parse bs) bs (bs.length = 24)
      (fun e => e = (if bs.length < 24 then .truncated 24 bs.length else .tooLarge 24 bs.length) ∧
        bs.length ≠ 24) :=
  .guard_lt (fun h => ⟨(if_pos h).symm, Nat.ne_of_lt h⟩) (fun q => Nat.le_of_eq q.symm) fun h1 =>
  .guard_lt (fun h => ⟨(if_neg (Nat.not_lt.mpr h1)).symm, Nat.ne_of_gt h⟩) (fun q => Nat.le_of_eq q) fun h2 =>
  .ok (Nat.le_antisymm h2 h1)

end Rtcp.Proofs
