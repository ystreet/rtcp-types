/-
  Round trips of the fixed-layout packets (C02, C04, C05 packet level, C19).  Each goes the same way:
  the image has the size the rules accept (`x_size`), hence is well framed (`wellFramed_of_size`), hence
  accepted by the typed parser; what the accessors return on an accepted view is known in the
  reference reads (`X_accessors`); the body sits at offset 4 (`packet_body_prefix`), its fields one
  after the other (`prefix_drop_append`), and a reference read at the offset of a field returns it.
-/
import Rtcp.Spec.All
import Rtcp.Proofs.PacketImage
import Rtcp.Proofs.ParsersAccessors
import Rtcp.Proofs.ParsersDispatch
import Rtcp.Proofs.FciDecode
import Rtcp.Proofs.Rules

namespace Rtcp.Proofs
open Rtcp Rtcp.Impl Rtcp.Spec Rtcp.Proofs.Read Rtcp.Proofs.RT

theorem sr_roundtrip {ε : Type} (b : SrBuilder) (h : srRules b = []) :
    Sr.parse (srImage b) = .ok (srImage b) ∧
    (Sr.ssrc (srImage b) : R ε UInt32) = .ok b.ssrc ∧
    (Sr.ntp (srImage b) : R ε UInt64) = .ok b.ntp ∧
    (Sr.rtp (srImage b) : R ε UInt32) = .ok b.rtp ∧
    (Sr.packetCount (srImage b) : R ε UInt32) = .ok b.packetCount ∧
    (Sr.octetCount (srImage b) : R ε UInt32) = .ok b.octetCount ∧
    (Sr.padding (srImage b) : R ε (Option UInt8)) = .ok (getPaddingOf b.padding) ∧
    (Sr.nReports (srImage b) : R ε UInt8) = .ok b.reportBlocks.length.toUInt8 ∧
    (Sr.reportBlocks (srImage b) : R ε (List Bytes)) = .ok (b.reportBlocks.map rbImage) := by
  have hlen := srImage_length b
  have hc : count (srImage b) = b.reportBlocks.length :=
    count_packet_lt _ _ _ (Nat.lt_succ_of_le (srRules_nil.mp h).1)
  have hok : Sr.parse (srImage b) = .ok (srImage b) :=
    (sr_outcome _).accepts.mpr ⟨wellFramed_of_size hlen (sr_size (h ▸ sr_calcSize b))
      (Nat.le_add_right_of_le (Nat.le_add_right _ _)), by rw [hc, hlen]; exact Nat.le_add_right _ _⟩
  obtain ⟨a1, a2, a3, a4, a5, a6, a7, a8⟩ := sr_accessors (ε := ε) _ hok
  have hb : _ <+: (srImage b).drop 4 := packet_body_prefix ..
  simp only [prefix_drop_append, List.length_append, be32_length, be64_length, Nat.reduceAdd] at hb
  obtain ⟨⟨⟨⟨⟨f1, f2⟩, f3⟩, f4⟩, f5⟩, f6⟩ := hb
  exact ⟨hok, by rw [a1, u32At_of_prefix f1], by rw [a2, u64At_of_prefix f2], by rw [a3, u32At_of_prefix f3],
    by rw [a4, u32At_of_prefix f4], by rw [a5, u32At_of_prefix f5], by rw [a7, srImage, paddingOf_packet],
    by rw [a6, hc],
    by rw [a8, hc]; exact congrArg R.ok (ranges_of_prefix _ _ (fun _ _ => rbImage_length _) f6)⟩

theorem rr_roundtrip {ε : Type} (b : RrBuilder) (h : rrRules b = []) :
    Rr.parse (rrImage b) = .ok (rrImage b) ∧
    (Rr.ssrc (rrImage b) : R ε UInt32) = .ok b.ssrc ∧
    (Rr.padding (rrImage b) : R ε (Option UInt8)) = .ok (getPaddingOf b.padding) ∧
    (Rr.nReports (rrImage b) : R ε UInt8) = .ok b.reportBlocks.length.toUInt8 ∧
    (Rr.reportBlocks (rrImage b) : R ε (List Bytes)) = .ok (b.reportBlocks.map rbImage) := by
  have hlen := rrImage_length b
  have hc : count (rrImage b) = b.reportBlocks.length :=
    count_packet_lt _ _ _ (Nat.lt_succ_of_le (rrRules_nil.mp h).1)
  have hok : Rr.parse (rrImage b) = .ok (rrImage b) :=
    (rr_outcome _).accepts.mpr ⟨wellFramed_of_size hlen (rr_size (h ▸ rr_calcSize b))
      (Nat.le_add_right_of_le (Nat.le_add_right _ _)), by rw [hc, hlen]; exact Nat.le_add_right _ _⟩
  obtain ⟨a1, a2, a3, a4⟩ := rr_accessors (ε := ε) _ hok
  obtain ⟨f1, f2⟩ := prefix_drop_append.mp (show _ <+: (rrImage b).drop 4 from packet_body_prefix ..)
  exact ⟨hok, by rw [a1, u32At_of_prefix f1], by rw [a3, rrImage, paddingOf_packet], by rw [a2, hc],
    by rw [a4, hc]; exact congrArg R.ok (ranges_of_prefix _ _ (fun _ _ => rbImage_length _) f2)⟩

theorem bye_roundtrip {ε : Type} (b : ByeBuilder) (h : byeRules b = []) :
    Bye.parse (byeImage b) = .ok (byeImage b) ∧
    (Bye.ssrcs (byeImage b) : R ε (List UInt32)) = .ok b.sources ∧
    (Bye.reason (byeImage b) : R ε (Option Slice)) =
      .ok (if b.reason = [] then none else some ⟨4 + 4 * b.sources.length + 1, b.reason⟩) ∧
    (Bye.padding (byeImage b) : R ε (Option UInt8)) = .ok (getPaddingOf b.padding) := by
  obtain ⟨hn, hp, hr⟩ := byeRules_nil.mp h
  have hlen := byeImage_length b
  have hc : count (byeImage b) = b.sources.length := count_packet_lt _ _ _ (Nat.lt_succ_of_le hn)
  obtain ⟨f1, f2⟩ := prefix_drop_append.mp (show _ <+: (byeImage b).drop 4 from packet_body_prefix ..)
  rw [srcImages_length] at f2
  -- what is left depends on the octet after the sources: the first of the padding, or the length of
  -- the text
  suffices hs : (4 + 4 * b.sources.length < (byeImage b).length →
        4 + 4 * b.sources.length + 1 + u8At (byeImage b) (4 + 4 * b.sources.length) ≤ (byeImage b).length) ∧
      (if (byeImage b).length ≤ 4 + 4 * b.sources.length + 1 + b.padding.toNat then none
       else some ⟨4 + 4 * b.sources.length + 1, range (byeImage b) (4 + 4 * b.sources.length + 1)
          (4 + 4 * b.sources.length + 1 + u8At (byeImage b) (4 + 4 * b.sources.length))⟩ : Option Slice)
        = if b.reason = [] then none else some ⟨4 + 4 * b.sources.length + 1, b.reason⟩ by
    have hok : Bye.parse (byeImage b) = .ok (byeImage b) :=
      (bye_outcome _).accepts.mpr ⟨wellFramed_of_size hlen (bye_size (h ▸ bye_calcSize b))
          (Nat.le_add_right_of_le (Nat.le_add_right_of_le (Nat.le_add_right _ _))),
        by rw [hc, hlen]; exact Nat.le_add_right_of_le (Nat.le_add_right _ _), by rw [hc]; exact hs.1⟩
    obtain ⟨a1, a2, a3, -⟩ := bye_accessors (ε := ε) _ hok
    exact ⟨hok, by rw [a1, hc]; exact congrArg R.ok (u32s_of_prefix _ _ f1),
      by rw [a3, hc, show padLen (byeImage b) = _ from padLen_packet ..]; exact congrArg R.ok hs.2,
      a2.trans (congrArg R.ok (paddingOf_packet ..))⟩
  by_cases he : b.reason = []
  · -- no text: the image ends after the sources, or goes on with padding, which begins with a zero
    rw [if_pos he, Nat.add_zero] at hlen
    rw [hlen, if_pos he, if_pos (Nat.add_le_add_right (Nat.le_add_right _ 1) _)]
    refine ⟨fun hlt => ?_, rfl⟩
    have hz : u8At (byeImage b) _ = 0 := u8At_trailer hlen.symm (Nat.le_trans (by decide)
      (Nat.le_of_dvd (Nat.lt_add_right_iff_pos.mp hlt) (Nat.dvd_of_mod_eq_zero hp)))
    rw [hz]
    exact hlt
  · -- length octet, text, zero fill
    rw [List.isEmpty_eq_false_iff.mpr he, if_neg Bool.false_ne_true] at f2
    have hu : u8At (byeImage b) (4 + 4 * b.sources.length) = b.reason.length :=
      (u8At_of_prefix f2).trans (mod256_toUInt8_toNat (Nat.lt_succ_of_le hr))
    have h1 := le_pad4 (b.reason.length + 1)
    rw [hlen, if_neg he, if_neg he, hu, if_neg (Nat.not_le.mpr (Nat.add_lt_add_right (Nat.add_lt_add_left
      (Nat.lt_of_lt_of_le (Nat.succ_lt_succ (List.length_pos_iff.mpr he)) h1) _) _))]
    exact ⟨fun _ => by rw [Nat.add_right_comm]; exact Nat.le_add_right_of_le (Nat.add_le_add_left h1 _),
      congrArg (fun s => some (Slice.mk _ s))
        (range_of_prefix (prefix_drop_append.mp ((prefix_drop_append (s := [_])).mp f2).2).1)⟩

/-- APP, feedback, third-party: a packet image of an accepted size with `min` octets before the padding
    is accepted -/
theorem custom_parse_packet {pt : UInt8} {min c : Nat} {p : UInt8} {body : Bytes} {n : Nat} (h4 : 4 ≤ min)
    (hl : (packet pt c p body).length = n) (hs : n % 4 = 0 ∧ n ≤ 262144) (hmin : min + p.toNat ≤ n) :
    Custom.parse pt min (packet pt c p body) = .ok (packet pt c p body) :=
  (custom_outcome pt min h4 _).accepts.mpr
    ⟨wellFramed_of_size hl hs (Nat.le_trans (Nat.le_add_right _ _) hmin), by rw [padLen_packet, hl]; exact hmin⟩

theorem app_roundtrip {ε : Type} (b : AppBuilder) (h : appRules b = []) :
    App.parse (appImage b) = .ok (appImage b) ∧
    (App.ssrc (appImage b) : R ε UInt32) = .ok b.ssrc ∧
    (hCount (appImage b) : R ε UInt8) = .ok b.subtype ∧
    (App.name (appImage b) : R ε Bytes) = .ok (b.name ++ List.replicate (4 - b.name.length) 0) ∧
    (App.data (appImage b) : R ε Slice) = .ok ⟨12, b.data⟩ ∧
    (App.padding (appImage b) : R ε (Option UInt8)) = .ok (getPaddingOf b.padding) := by
  obtain ⟨hst, ⟨hnl, -⟩, -⟩ := appRules_nil.mp h
  have hnm : (b.name ++ List.replicate (4 - b.name.length) 0).length = 4 := by
    rw [List.length_append, List.length_replicate, Nat.add_sub_cancel' hnl]
  have hlen := appImage_length b hnl
  have hok : App.parse (appImage b) = .ok (appImage b) :=
    custom_parse_packet (Nat.le_add_left 4 8) hlen (app_size (h ▸ app_calcSize b)) (Nat.le_add_right _ _)
  obtain ⟨a1, a2, a3, a4, -⟩ := app_accessors (ε := ε) _ hok
  have hb : _ <+: (appImage b).drop 4 := packet_body_prefix ..
  rw [List.append_assoc (be32 _)] at hb
  obtain ⟨f1, f2⟩ := prefix_drop_append.mp (prefix_drop_append.mp hb).1
  refine ⟨hok, by rw [a1, u32At_of_prefix f1], ?_, by rw [a2, ← range_of_prefix f2, hnm]; rfl, ?_,
    by rw [a3, appImage, paddingOf_packet]⟩
  · rw [appImage, hCount_ok _ (packet_len4 ..), count_packet_lt _ _ _ (Nat.lt_succ_of_le hst), toNat_toUInt8]
  · rw [a4, appImage, range_payload _ _ _ _ 8, List.append_assoc (be32 _),
      List.drop_left' (by rw [List.length_append, hnm]; rfl)]

/-- nothing is asked of the FCI (hence no `hf`) -/
theorem fb_parse_image (k : FbKind) (f : FciB) (p : UInt8) (s m : UInt32) (h : fbRules k f p = []) :
    Fb.parse k (fbImage k f p s m) = .ok (fbImage k f p s m) :=
  have ⟨hp, _, _, hsz⟩ := fbRules_nil.mp h
  custom_parse_packet (Nat.le_add_left 4 8) (fbImage_length k f p s m)
    ⟨by rw [Nat.add_mod, hp, Nat.add_mod 12, fciImage_length_mod4], hsz⟩
    (Nat.add_le_add_right (Nat.le_add_right _ _) _)

theorem fb_roundtrip {ε : Type} (k : FbKind) (f : FciB)
    (hf : match f with | .nack b => b.rtpSeq.Pairwise (· < ·) | _ => True)
    (p : UInt8) (s m : UInt32) (h : fbRules k f p = []) :
    let img := fbImage k f p s m
    Fb.parse k img = .ok img ∧
    (Fb.senderSsrc img : R ε UInt32) = .ok s ∧
    (Fb.mediaSsrc img : R ε UInt32) = .ok m ∧
    (Fb.padding img : R ε (Option UInt8)) = .ok (getPaddingOf p) ∧
    (hCount img : R ε UInt8) = .ok (fciFormat f).toUInt8 ∧
    Fb.parseFci k (fciTypeOf f) img = (fciTypeOf f).parse (fciImage f) := by
  intro img  -- `hf` is not needed: nothing below looks inside the FCI
  have hk := (fbRules_nil.mp h).2.1
  have hc : count img = fciFormat f := (count_packet ..).trans (by cases f <;> rfl)
  have hok : Fb.parse k img = .ok img := fb_parse_image k f p s m h
  obtain ⟨a1, a2, a3⟩ := fb_accessors (ε := ε) k _ hok
  obtain ⟨f1, f2⟩ := prefix_drop_append.mp (prefix_drop_append.mp
    (show _ <+: img.drop 4 from packet_body_prefix ..)).1
  refine ⟨hok, by rw [a1, u32At_of_prefix f1], by rw [a2]; exact congrArg R.ok (u32At_of_prefix f2),
    by rw [a3]; exact congrArg R.ok (paddingOf_packet ..), by rw [hCount_ok img (packet_len4 ..), hc], ?_⟩
  rw [parseFci_eq k _ _ hok,
    if_pos ⟨by rw [← hk]; cases f <;> simp [fciTypeOf, fciKind], by rw [hc]; cases f <;> rfl⟩]
  exact congrArg _ ((range_payload _ _ _ _ 8).trans (List.drop_left' rfl))

theorem packet_parse_unknown {pt : UInt8} {c : Nat} {p : UInt8} {body : Bytes} {n : Nat}
    (hl : (packet pt c p body).length = n) (hs : n % 4 = 0 ∧ n ≤ 262144) (hk : kindOfType pt = none) :
    Packet.parse (packet pt c p body) = .ok (.unknown (packet pt c p body)) := by
  have hu : Unknown.parse (packet pt c p body) = .ok (packet pt c p body) :=
    (unknown_outcome _).accepts.mpr ((unknownFramed_iff _).mpr ⟨packet_len4 .., version_packet ..,
      (lengthField_of_size hl hs).trans hl.symm⟩)
  rw [packet_parse_eq _ (packet_len4 ..), ptype_packet, hk, hu]
  rfl

theorem custom_roundtrip {ε : Type} (b : CustomBuilder) (h : customRules b = []) (h4 : 4 ≤ b.min)
    (hm : b.min % 4 = 0) (hs : b.bodyEnd + b.padding.toNat ≤ 262144) :
    Custom.parse b.pt b.min (customImage b) = .ok (customImage b) ∧
    (Custom.body (customImage b) : R ε Slice)
      = .ok ⟨4, b.body ++ List.replicate (b.min - 4 - b.body.length) 0⟩ ∧
    (Custom.padding (customImage b) : R ε (Option UInt8)) = .ok (getPaddingOf b.padding) ∧
    (kindOfType b.pt = none → Packet.parse (customImage b) = .ok (.unknown (customImage b))) := by
  obtain ⟨hp, hd⟩ := customRules_nil.mp h
  have hlen := customImage_length b
  have hsz : (b.bodyEnd + b.padding.toNat) % 4 = 0 := by
    refine Nat.mod_eq_zero_of_dvd (Nat.dvd_add ?_ (Nat.dvd_of_mod_eq_zero hp))
    rw [CustomBuilder.bodyEnd, Nat.max_def]
    split
    · exact Nat.dvd_of_mod_eq_zero hm
    · exact Nat.dvd_add (Nat.dvd_refl 4) (Nat.dvd_of_mod_eq_zero hd)
  have hok : Custom.parse b.pt b.min (customImage b) = .ok (customImage b) :=
    custom_parse_packet h4 hlen ⟨hsz, hs⟩ (Nat.add_le_add_right (Nat.le_max_right _ _) _)
  obtain ⟨a1, a2⟩ := custom_accessors (ε := ε) _ _ h4 _ hok
  exact ⟨hok, by rw [a2]; exact congrArg (fun s => R.ok (Slice.mk 4 s)) (range_payload _ _ _ _ 0),
    by rw [a1, customImage, paddingOf_packet], packet_parse_unknown hlen ⟨hsz, hs⟩⟩

end Rtcp.Proofs
