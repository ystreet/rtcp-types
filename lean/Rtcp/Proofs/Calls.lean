/-
  Closed forms of builder call sequences (C20).

  A run is a fold, and each field of the builder goes its own way under the fold
  (Rtcp/Proofs/FoldField.lean): a closed form is record extensionality plus, per field, what ONE call
  does to that field, which is `rfl` for every constructor of the call type.  The `ext` lemmas of the
  builder records are generated here (`attribute [ext]` below).  The NACK set and the FIR table are
  not fields that are set or appended to; their runs rest on Rtcp/Proofs/SortedSet.lean and
  Rtcp/Proofs/FirTable.lean.
-/
import Rtcp.Impl.Calls
import Rtcp.Proofs.FoldField
import Rtcp.Proofs.SortedSet
import Rtcp.Proofs.FirTable

namespace Rtcp.Proofs
open Rtcp Rtcp.Impl Rtcp.Spec

attribute [ext (iff := false)] ReportBlockBuilder SrBuilder RrBuilder AppBuilder ByeBuilder UnknownBuilder
  SdesItemBuilder SdesChunkBuilder SdesBuilder FbBuilder RpsiBuilder

theorem rb_run (b : ReportBlockBuilder) (cs : List RbCall) :
    b.run cs =
      { ssrc := b.ssrc
        fractionLost := lastSome (fun | .fl v => some v | _ => none) cs b.fractionLost
        cumulativeLost := lastSome (fun | .cl v => some v | _ => none) cs b.cumulativeLost
        extendedSequenceNumber := lastSome (fun | .esn v => some v | _ => none) cs b.extendedSequenceNumber
        interarrivalJitter := lastSome (fun | .jit v => some v | _ => none) cs b.interarrivalJitter
        lastSenderReportTimestamp := lastSome (fun | .lsr v => some v | _ => none) cs b.lastSenderReportTimestamp
        delaySinceLastSenderReportTimestamp :=
          lastSome (fun | .dlsr v => some v | _ => none) cs b.delaySinceLastSenderReportTimestamp } :=
  ReportBlockBuilder.ext
    (foldl_kept (by rintro _ ⟨⟩ <;> rfl) cs b)
    (foldl_set (by rintro _ ⟨⟩ <;> rfl) cs b)
    (foldl_set (by rintro _ ⟨⟩ <;> rfl) cs b)
    (foldl_set (by rintro _ ⟨⟩ <;> rfl) cs b)
    (foldl_set (by rintro _ ⟨⟩ <;> rfl) cs b)
    (foldl_set (by rintro _ ⟨⟩ <;> rfl) cs b)
    (foldl_set (by rintro _ ⟨⟩ <;> rfl) cs b)

theorem sr_run (b : SrBuilder) (cs : List SrCall) :
    b.run cs =
      { ssrc := b.ssrc
        padding := lastSome (fun | .padding v => some v | _ => none) cs b.padding
        ntp := lastSome (fun | .ntp v => some v | _ => none) cs b.ntp
        rtp := lastSome (fun | .rtp v => some v | _ => none) cs b.rtp
        packetCount := lastSome (fun | .packetCount v => some v | _ => none) cs b.packetCount
        octetCount := lastSome (fun | .octetCount v => some v | _ => none) cs b.octetCount
        reportBlocks := b.reportBlocks ++ cs.filterMap (fun | .addReportBlock rb => some rb | _ => none) } :=
  SrBuilder.ext
    (foldl_kept (by rintro _ ⟨⟩ <;> rfl) cs b)
    (foldl_set (by rintro _ ⟨⟩ <;> rfl) cs b)
    (foldl_set (by rintro _ ⟨⟩ <;> rfl) cs b)
    (foldl_set (by rintro _ ⟨⟩ <;> rfl) cs b)
    (foldl_set (by rintro _ ⟨⟩ <;> rfl) cs b)
    (foldl_set (by rintro _ ⟨⟩ <;> rfl) cs b)
    (foldl_added (by rintro _ ⟨⟩ <;> rfl) cs b)

theorem bye_run (b : ByeBuilder) (cs : List ByeCall) :
    b.run cs =
      { padding := lastSome (fun | .padding v => some v | _ => none) cs b.padding
        sources := b.sources ++ cs.filterMap (fun | .addSource s => some s | _ => none)
        reason := lastSome (fun | .reason r => some r | .reasonOwned r => some r | _ => none) cs b.reason } :=
  ByeBuilder.ext
    (foldl_set (by rintro _ ⟨⟩ <;> rfl) cs b)
    (foldl_added (by rintro _ ⟨⟩ <;> rfl) cs b)
    (foldl_set (by rintro _ ⟨⟩ <;> rfl) cs b)

theorem chunk_run (b : SdesChunkBuilder) (cs : List ChunkCall) :
    b.run cs =
      { ssrc := b.ssrc
        items := b.items ++ cs.map (fun | .addItem it => it | .addItemOwned it => it) } :=
  SdesChunkBuilder.ext
    (foldl_kept (by rintro _ ⟨⟩ <;> rfl) cs b)
    (foldl_pushed (by rintro _ ⟨⟩ <;> rfl) cs b)

/-- the two RPSI fields are set together, so they are followed as one pair-valued field -/
theorem rpsi_run (b : RpsiBuilder) (cs : List RpsiCall) :
    b.run cs =
      { payloadType := lastSome (fun | .payloadType v => some v | _ => none) cs b.payloadType
        nativeBitString :=
          (lastSome (fun | .nativeData d k => some (d, k) | .nativeDataOwned d k => some (d, k) | _ => none) cs
            (b.nativeBitString, b.nativeBitOverrun)).1
        nativeBitOverrun :=
          (lastSome (fun | .nativeData d k => some (d, k) | .nativeDataOwned d k => some (d, k) | _ => none) cs
            (b.nativeBitString, b.nativeBitOverrun)).2 } :=
  have h := foldl_set (ap := RpsiCall.apply) (f := fun b : RpsiBuilder => (b.nativeBitString, b.nativeBitOverrun))
    (by rintro _ ⟨⟩ <;> rfl) cs b
  RpsiBuilder.ext (foldl_set (by rintro _ ⟨⟩ <;> rfl) cs b) (congrArg Prod.fst h) (congrArg Prod.snd h)

theorem nack_run_of_sorted (ss : List UInt16) (b : NackBuilder) (hb : b.rtpSeq.Pairwise (· < ·)) :
    (NackBuilder.run b ss).rtpSeq.Pairwise (· < ·) ∧
      ∀ x, x ∈ (NackBuilder.run b ss).rtpSeq ↔ x ∈ b.rtpSeq ∨ x ∈ ss := by
  induction ss generalizing b with
  | nil => simp [NackBuilder.run, hb]
  | cons s ss ih =>
    have := ih (b.addRtpSequence s) (sortedInsert_pairwise s hb)
    refine ⟨this.1, fun x => (this.2 x).trans ?_⟩
    show x ∈ sortedInsert s b.rtpSeq ∨ x ∈ ss ↔ _
    rw [mem_sortedInsert, List.mem_cons, or_comm (a := x = s), or_assoc]

theorem nack_run (ss : List UInt16) :
    let b := NackBuilder.run {} ss
    b.rtpSeq.Pairwise (· < ·) ∧ ∀ x, x ∈ b.rtpSeq ↔ x ∈ ss := by
  simpa using nack_run_of_sorted ss {} .nil

theorem nack_run_same_set (ss ss' : List UInt16) (h : ∀ x, x ∈ ss ↔ x ∈ ss') :
    NackBuilder.run {} ss = NackBuilder.run {} ss' :=
  nack_ext (nack_run ss).1 (nack_run ss').1 fun x => by rw [(nack_run ss).2, (nack_run ss').2, h]

theorem fir_run (es : List (UInt32 × UInt8)) :
    (FirBuilder.run {} es).ssrcSeq =
      (es.map Prod.fst).eraseDups.map
        (fun k => (k, lastSome (fun e => if e.1 == k then some e.2 else none) es 0)) := by
  induction es using snoc_ind with
  | hnil => rfl
  | hsnoc es e ih =>
    obtain ⟨k, v⟩ := e
    rw [FirBuilder.run, List.foldl_append]
    show FirBuilder.upsert k v (FirBuilder.run {} es).ssrcSeq = _
    rw [ih, upsert_map _ _ _ _ (eraseDups_nodup _), List.map_append (f := Prod.fst), List.map_cons,
      List.map_nil, eraseDups_concat]
    refine List.map_congr_left fun k' _ => ?_
    rw [lastSome_append, lastSome_cons, lastSome_nil]
    cases k == k' <;> rfl

theorem sli_run (b : SliBuilder) (es : List (UInt16 × UInt16 × UInt8)) :
    (b.run es).lostMbs = b.lostMbs ++ es.map (fun e => ⟨e.1, e.2.1, e.2.2⟩) :=
  foldl_pushed (fun _ _ => rfl) es b

theorem sr_same_summary (b : SrBuilder) (cs cs' : List SrCall)
    (hp : lastSome (fun | .padding v => some v | _ => none) cs b.padding
        = lastSome (fun | .padding v => some v | _ => none) cs' b.padding)
    (hn : lastSome (fun | .ntp v => some v | _ => none) cs b.ntp = lastSome (fun | .ntp v => some v | _ => none) cs' b.ntp)
    (hr : lastSome (fun | .rtp v => some v | _ => none) cs b.rtp = lastSome (fun | .rtp v => some v | _ => none) cs' b.rtp)
    (hc : lastSome (fun | .packetCount v => some v | _ => none) cs b.packetCount
        = lastSome (fun | .packetCount v => some v | _ => none) cs' b.packetCount)
    (ho : lastSome (fun | .octetCount v => some v | _ => none) cs b.octetCount
        = lastSome (fun | .octetCount v => some v | _ => none) cs' b.octetCount)
    (hb : cs.filterMap (fun | .addReportBlock rb => some rb | _ => none)
        = cs'.filterMap (fun | .addReportBlock rb => some rb | _ => none)) :
    b.run cs = b.run cs' ∧ (b.run cs).calcSize = (b.run cs').calcSize ∧
      ∀ buf, (b.run cs).toWriter.writeInto buf = (b.run cs').toWriter.writeInto buf := by
  have : b.run cs = b.run cs' := by rw [sr_run, sr_run, hp, hn, hr, hc, ho, hb]
  exact this ▸ ⟨rfl, rfl, fun _ => rfl⟩

theorem bye_same_summary (b : ByeBuilder) (cs cs' : List ByeCall)
    (hp : lastSome (fun | .padding v => some v | _ => none) cs b.padding
        = lastSome (fun | .padding v => some v | _ => none) cs' b.padding)
    (hs : cs.filterMap (fun | .addSource s => some s | _ => none)
        = cs'.filterMap (fun | .addSource s => some s | _ => none))
    (hr : lastSome (fun | .reason r => some r | .reasonOwned r => some r | _ => none) cs b.reason
        = lastSome (fun | .reason r => some r | .reasonOwned r => some r | _ => none) cs' b.reason) :
    b.run cs = b.run cs' ∧ (b.run cs).calcSize = (b.run cs').calcSize ∧
      ∀ buf, (b.run cs).toWriter.writeInto buf = (b.run cs').toWriter.writeInto buf := by
  have : b.run cs = b.run cs' := by rw [bye_run, bye_run, hp, hs, hr]
  exact this ▸ ⟨rfl, rfl, fun _ => rfl⟩

theorem sr_padding_anywhere (b : SrBuilder) (pre post : List SrCall) (v : UInt8)
    (h : ∀ c ∈ post, ∀ w, c ≠ .padding w) :
    b.run (pre ++ .padding v :: post) = b.run (pre ++ post ++ [.padding v]) :=
  foldl_move_last (fun c hc _ => by cases c with | padding w => exact absurd rfl (h _ hc w) | _ => rfl) pre b

end Rtcp.Proofs
