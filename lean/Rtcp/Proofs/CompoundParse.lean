/-
  Compound datagrams (C11, C14).  The reference tiling, for any fuel that covers the bytes, is the
  inverse of `List.flatten` on tiles.  `parseLoop_eq` / `next_eq`: one turn at an offset.  Over tiles `ts`
  the iterator yields `tileItems ts`: each tile parsed on its own, through the first failure.
-/
import Rtcp.Spec.All
import Rtcp.Proofs.ReadLemmas
import Rtcp.Proofs.Outcome
import Rtcp.Proofs.Iter

namespace Rtcp.Proofs
open Rtcp Rtcp.Impl Rtcp.Spec

theorem lengthField_tile {t : Bytes} (ht : Tile t) (post : Bytes) : lengthField (t ++ post) = t.length := by
  rw [← Read.lengthField_take (t ++ post) t.length ht.1, List.take_left, ht.2]

theorem tilingAux_nil (fuel : Nat) : tilingAux fuel [] = some [] := by
  cases fuel <;> rfl

theorem tilingAux_step (fuel : Nat) (bs : Bytes) (hne : bs ≠ []) :
    tilingAux (fuel + 1) bs =
      if bs.length < 4 then none
      else if bs.length < lengthField bs then none
      else (tilingAux fuel (bs.drop (lengthField bs))).map (fun ts => bs.take (lengthField bs) :: ts) := by
  cases bs with
  | nil => exact absurd rfl hne
  | cons b bs => rfl

theorem tilingAux_sound (fuel : Nat) (bs : Bytes) (ts : List Bytes) (h : tilingAux fuel bs = some ts) :
    ts.flatten = bs ∧ ∀ t ∈ ts, Tile t := by
  -- the branches of `tilingAux`: empty input (1), a tile cut off (5); the others return `none`
  fun_induction tilingAux fuel bs generalizing ts with
  | case1 => cases h; exact ⟨rfl, nofun⟩
  | case5 fuel bs hne h4 n hn ih =>
    obtain ⟨ts', h', rfl⟩ := Option.map_eq_some_iff.mp h
    obtain ⟨ihf, iht⟩ := ih ts' h'
    have hg := Read.lengthField_ge bs
    refine ⟨by rw [List.flatten_cons, ihf, List.take_append_drop], List.forall_mem_cons.mpr ⟨?_, iht⟩⟩
    rw [Tile, Read.lengthField_take bs _ hg, List.length_take, Nat.min_eq_left (Nat.not_lt.mp hn)]
    exact ⟨hg, rfl⟩
  | _ => cases h

theorem tiles_length_le {ts : List Bytes} (h : ∀ t ∈ ts, Tile t) : 4 * ts.length ≤ ts.flatten.length := by
  induction ts with
  | nil => exact Nat.le_refl _
  | cons t ts ih =>
    obtain ⟨ht, h⟩ := List.forall_mem_cons.mp h
    rw [List.flatten_cons, List.length_append, List.length_cons, Nat.mul_succ, Nat.add_comm]
    exact Nat.add_le_add ht.1 (ih h)

/-- conversely tiles are found again, one unit of fuel each -/
theorem tilingAux_flatten (ts : List Bytes) (h : ∀ t ∈ ts, Tile t) (fuel : Nat) (hf : ts.length ≤ fuel) :
    tilingAux fuel ts.flatten = some ts := by
  induction ts generalizing fuel with
  | nil => exact tilingAux_nil fuel
  | cons t ts ih =>
    obtain ⟨ht, h⟩ := List.forall_mem_cons.mp h
    obtain ⟨f, rfl⟩ := Nat.exists_eq_add_one.mpr (Nat.lt_of_lt_of_le (Nat.succ_pos _) hf)
    have hlen : t.length ≤ (t ++ ts.flatten).length := List.length_append ▸ Nat.le_add_right _ _
    have h4 := Nat.le_trans ht.1 hlen
    rw [List.flatten_cons, tilingAux_step f _ (List.ne_nil_of_length_pos (Nat.lt_of_lt_of_le (by decide) h4)),
      lengthField_tile ht, if_neg (Nat.not_lt.mpr h4), if_neg (Nat.not_lt.mpr hlen), List.drop_left, List.take_left,
      ih h f (Nat.le_of_succ_le_succ hf)]
    rfl

/-- fuel that covers the bytes covers the tiles: a tile takes at least four bytes -/
theorem tilingAux_eq_some_iff {fuel : Nat} {bs : Bytes} (hf : bs.length ≤ fuel) (ts : List Bytes) :
    tilingAux fuel bs = some ts ↔ ts.flatten = bs ∧ ∀ t ∈ ts, Tile t :=
  ⟨tilingAux_sound fuel bs ts, fun ⟨hb, ht⟩ => hb ▸ tilingAux_flatten ts ht fuel
    (Nat.le_trans (Nat.le_trans (Nat.le_mul_of_pos_left _ (by decide)) (tiles_length_le ht)) (hb ▸ hf))⟩

theorem tiling_eq_some_iff (bs : Bytes) (ts : List Bytes) :
    tiling bs = some ts ↔ ts.flatten = bs ∧ ∀ t ∈ ts, Tile t := tilingAux_eq_some_iff (Nat.le_refl _) ts

theorem tiling_flatten (imgs : List Bytes) (h : ∀ t ∈ imgs, Tile t) :
    tiling imgs.flatten = some imgs := (tiling_eq_some_iff _ _).mpr ⟨rfl, h⟩

theorem tilingAux_eq_tiling {fuel : Nat} {bs : Bytes} (h : bs.length ≤ fuel) : tilingAux fuel bs = tiling bs :=
  Option.ext fun ts => (tilingAux_eq_some_iff h ts).trans (tiling_eq_some_iff bs ts).symm

theorem tiling_nil : tiling [] = some [] := rfl

theorem drop_lengthField_lt {bs : Bytes} (hne : bs ≠ []) : (bs.drop (lengthField bs)).length < bs.length := by
  rw [List.length_drop]
  exact Nat.sub_lt (List.length_pos_iff.mpr hne) (Nat.lt_of_lt_of_le (by decide) (Read.lengthField_ge bs))

/-- the first guard of `tilingAux` is covered by the second: a length field announces at least four bytes -/
theorem tiling_step (bs : Bytes) (hne : bs ≠ []) :
    tiling bs =
      if bs.length < lengthField bs then none
      else (tiling (bs.drop (lengthField bs))).map (fun ts => bs.take (lengthField bs) :: ts) := by
  obtain ⟨m, hm⟩ := Nat.exists_eq_add_one.mpr (List.length_pos_iff.mpr hne)
  rw [← tilingAux_eq_tiling (Nat.le_of_eq hm), tilingAux_step m bs hne,
    tilingAux_eq_tiling (Nat.le_of_lt_succ (Nat.lt_of_lt_of_eq (drop_lengthField_lt hne) hm))]
  by_cases h4 : bs.length < 4
  · rw [if_pos h4, if_pos (Nat.lt_of_lt_of_le h4 (Read.lengthField_ge bs))]
  · rw [if_neg h4]

theorem tiles_flatten_eq_nil {ts : List Bytes} (h : ∀ t ∈ ts, Tile t) : ts.flatten = [] ↔ ts = [] := by
  refine ⟨fun e => ?_, fun e => e ▸ rfl⟩
  have := tiles_length_le h
  rw [e, List.length_nil] at this
  exact List.eq_nil_of_length_eq_zero
    (Nat.eq_zero_of_le_zero (Nat.le_trans (Nat.le_mul_of_pos_left _ (by decide)) this))

theorem tiling_length_le (bs : Bytes) (ts : List Bytes) (h : tiling bs = some ts) :
    4 * ts.length ≤ bs.length := by
  obtain ⟨rfl, ht⟩ := (tiling_eq_some_iff bs ts).mp h
  exact tiles_length_le ht

theorem parseLength_drop {ε : Type} {d : Bytes} {off : Nat} (h4 : off + 4 ≤ d.length) :
    (parseLength (d.drop off) : R ε Nat) = .ok (lengthField (d.drop off)) :=
  Read.parseLength_ok _ (List.length_drop ▸ Nat.le_sub_of_add_le' h4)

/-- `parseLoop` unfolded once: with four bytes left its two reads cannot fail -/
theorem parseLoop_eq (d : Bytes) (off : Nat) :
    Compound.parseLoop d off =
      if off < d.length then
        if d.length < off + 4 then .err (.truncated (off + 4) d.length)
        else if d.length < off + lengthField (d.drop off) then
          .err (.truncated (off + lengthField (d.drop off)) d.length)
        else Compound.parseLoop d (off + lengthField (d.drop off))
      else .ok () := by
  rw [Compound.parseLoop]
  by_cases hlt : off < d.length
  · rw [dif_pos hlt, if_pos hlt]
    by_cases h4 : d.length < off + 4
    · rw [if_pos h4, if_pos h4]
    · have hs : (sliceFrom d off : R ParseError Bytes) = .ok (d.drop off) := Read.sliceFrom_ok (Nat.le_of_lt hlt)
      have hl := parseLength_drop (ε := ParseError) (Nat.not_lt.mp h4)
      rw [if_neg h4, if_neg h4]
      split
      · next rest hs' =>
        cases hs'.symm.trans hs
        split
        · next pl hl' => cases hl'.symm.trans hl; rfl
        all_goals next hl' => cases hl'.symm.trans hl
      all_goals next hs' => cases hs'.symm.trans hs
  · rw [dif_neg hlt, if_neg hlt]

/-- `next` before the end, unfolded once: the tile its header announces is parsed on its own; a read past the
    end of the data panics -/
theorem next_eq {ε : Type} (d : Bytes) (off : Nat) :
    (Compound.next ⟨d, off, false⟩ : R ε _) =
      if off + lengthField (d.drop off) ≤ d.length then
        match Packet.parse ((d.drop off).take (lengthField (d.drop off))) with
        | .panic => .panic
        | res => .ok (some (res, off),
            ⟨d, off + lengthField (d.drop off), !res.isOk || decide (off + lengthField (d.drop off) ≥ d.length)⟩)
      else .panic := by
  have hg := Nat.add_le_add_left (Read.lengthField_ge (d.drop off)) off
  rw [Compound.next, if_neg Bool.false_ne_true]
  by_cases h4 : off + 4 ≤ d.length
  · rw [Read.sliceFrom_ok (Nat.le_of_add_right_le h4), R.ok_bind, parseLength_drop h4, R.ok_bind]
    by_cases hn : off + lengthField (d.drop off) ≤ d.length
    · rw [if_pos hn, Read.slice_ok _ _ _ ⟨Nat.le_add_right _ _, hn⟩, range, List.drop_take, Nat.add_sub_cancel_left]
      rfl
    · rw [if_neg hn, slice, if_neg (fun h => hn h.2)]
      rfl
  · rw [if_neg (fun hn => h4 (Nat.le_trans hg hn))]
    by_cases hoff : off ≤ d.length
    · rw [Read.sliceFrom_ok hoff, R.ok_bind, Read.parseLength_short _
        (List.length_drop ▸ (Nat.sub_lt_iff_lt_add' hoff).mpr (Nat.not_le.mp h4))]
      rfl
    · rw [sliceFrom, if_neg hoff]
      rfl

/-- `tiling_step` at an offset, with the guard of the validation loop -/
theorem tiling_drop (d : Bytes) (off : Nat) (hlt : off < d.length) :
    (tiling (d.drop off)).isSome ↔
      off + lengthField (d.drop off) ≤ d.length ∧ (tiling (d.drop (off + lengthField (d.drop off)))).isSome := by
  have hsub := Nat.sub_lt_iff_lt_add' (c := lengthField (d.drop off)) (Nat.le_of_lt hlt)
  rw [tiling_step _ (mt List.drop_eq_nil_iff.mp (Nat.not_le.mpr hlt)), List.length_drop, List.drop_drop]
  by_cases h : d.length < off + lengthField (d.drop off)
  · rw [if_pos (hsub.mpr h)]
    exact ⟨nofun, fun q => absurd q.1 (Nat.not_le.mpr h)⟩
  · rw [if_neg (mt hsub.mp h), Option.isSome_map]
    exact (and_iff_right (Nat.not_lt.mp h)).symm

/-- by the loop's own recursion (`loop_induction` of SdesSteps.lean stands further up the imports) -/
theorem parseLoop_outcome (d : Bytes) (off : Nat) :
    Outcome (Compound.parseLoop d off) () (tiling (d.drop off)).isSome
      (fun e => ∃ ex, e = .truncated ex d.length ∧ d.length < ex) := by
  rw [parseLoop_eq]
  by_cases hlt : off < d.length
  · have hq := tiling_drop d off hlt
    have hg := Read.lengthField_ge (d.drop off)
    rw [if_pos hlt]
    exact .guard_lt (fun h => ⟨_, rfl, h⟩) (fun q => Nat.le_trans (Nat.add_le_add_left hg off) (hq.mp q).1) fun _ =>
      .guard_lt (fun h => ⟨_, rfl, h⟩) (fun q => (hq.mp q).1) fun hpl =>
      (parseLoop_outcome d _).congr ⟨fun q => hq.mpr ⟨hpl, q⟩, fun q => (hq.mp q).2⟩
  · rw [if_neg hlt, List.drop_eq_nil_of_le (Nat.not_lt.mp hlt)]
    exact .ok rfl
termination_by d.length - off
decreasing_by exact Nat.sub_lt_sub_left hlt (Nat.lt_add_of_pos_right (Nat.lt_of_lt_of_le (by decide) hg))

theorem compound_parse_outcome (bs : Bytes) :
    Outcome (Compound.parse bs) ⟨bs, 0, false⟩ (bs ≠ [] ∧ (tiling bs).isSome)
      (fun e => ∃ ex, e = .truncated ex bs.length ∧ bs.length < ex) := by
  unfold Compound.parse
  cases bs with
  | nil => exact .err ⟨4, rfl, by decide⟩ fun h => h.1 rfl
  | cons b bs =>
    rcases parseLoop_outcome (b :: bs) 0 with ⟨h, q⟩ | ⟨e, h, ht, q⟩ <;> rw [h]
    · exact .ok ⟨List.cons_ne_nil _ _, q⟩
    · exact .err ht fun p => q p.2

theorem compound_parse_ok_iff (bs : Bytes) (c : Compound) :
    Compound.parse bs = .ok c ↔ c = ⟨bs, 0, false⟩ ∧ bs ≠ [] ∧ (tiling bs).isSome :=
  (compound_parse_outcome bs).ok_iff c

theorem compound_parse_no_panic (bs : Bytes) : Compound.parse bs ≠ .panic := (compound_parse_outcome bs).no_panic

theorem compound_fused {ε : Type} (c : Compound) (h : c.isOver = true) :
    (Compound.next c : R ε _) = .ok (none, c) := by
  unfold Compound.next
  rw [if_pos h]

/-- what the iterator hands out over tiles `ts`, the first at offset `off`: each tile parsed on its
    own, with its offset, up to and including the first failure -/
def tileItems (off : Nat) : List Bytes → List (R ParseError Packet × Nat)
  | [] => []
  | t :: ts =>
    if (Packet.parse t).isOk then (Packet.parse t, off) :: tileItems (off + t.length) ts else [(Packet.parse t, off)]

theorem tileItems_results (off : Nat) (ts : List Bytes) :
    (tileItems off ts).map (·.1) = throughFirstErr (ts.map Packet.parse) := by
  induction ts generalizing off with
  | nil => rfl
  | cons t ts ih =>
    rw [tileItems, List.map_cons]
    cases Packet.parse t <;> simp [throughFirstErr, R.isOk, ih]

theorem throughFirstErr_all_ok {ε α : Type} (l : List (R ε α)) (h : ∀ x ∈ l, ∃ a, x = .ok a) :
    throughFirstErr l = l := by
  induction l with
  | nil => rfl
  | cons x xs ih =>
    obtain ⟨a, rfl⟩ := h x List.mem_cons_self
    rw [throughFirstErr, ih fun y hy => h y (List.mem_cons_of_mem _ hy)]

theorem tileItems_length_le (off : Nat) (ts : List Bytes) : (tileItems off ts).length ≤ ts.length := by
  fun_induction tileItems off ts with
  | case1 => exact Nat.le_refl _
  | case2 off t ts _ ih => exact Nat.succ_le_succ ih
  | case3 off t ts _ => exact Nat.succ_le_succ (Nat.zero_le _)

theorem tileItems_offset (off : Nat) (ts : List Bytes) (i : Nat) (hi : i < (tileItems off ts).length) :
    ((tileItems off ts)[i]).2 = off + ((ts.take i).map List.length).sum := by
  fun_induction tileItems off ts generalizing i with
  | case1 => exact absurd hi (Nat.not_lt_zero _)
  | case2 off t ts _ ih =>
    cases i with
    | zero => rfl
    | succ j =>
      rw [List.getElem_cons_succ, ih j (Nat.lt_of_succ_lt_succ hi), List.take_succ_cons, List.map_cons, List.sum_cons,
        Nat.add_assoc]
  | case3 off t ts _ =>
    cases i with
    | zero => rfl
    | succ j => exact absurd (Nat.lt_of_succ_lt_succ hi) (Nat.not_lt_zero j)

/-- `hnp` holds of every `t` (`packet_parses`, further up the imports); it is a hypothesis here and below
    because `compound_iter` and the statements built on it have it -/
theorem next_tile {ε : Type} (pre t post : Bytes) (ht : Tile t) (hnp : Packet.parse t ≠ .panic) :
    (Compound.next ⟨pre ++ (t ++ post), pre.length, false⟩ : R ε _) =
      .ok (some (Packet.parse t, pre.length),
        ⟨pre ++ (t ++ post), pre.length + t.length, !(Packet.parse t).isOk || decide (post = [])⟩) := by
  have hlen : (pre ++ (t ++ post)).length = pre.length + t.length + post.length := by
    rw [List.length_append, List.length_append, Nat.add_assoc]
  have hd : decide (pre.length + t.length ≥ (pre ++ (t ++ post)).length) = decide (post = []) := by
    rw [decide_eq_decide, hlen, ← List.length_eq_zero_iff]; omega
  rw [next_eq, List.drop_left, lengthField_tile ht, List.take_left, hd, if_pos (hlen ▸ Nat.le_add_right _ _)]
  cases hres : Packet.parse t with
  | panic => exact absurd hres hnp
  | ok p | err e => rfl

/-- `isOver = decide (ts = [])`: the state after a tile has this shape again -/
theorem tiles_yield {ε : Type} (ts : List Bytes) (pre : Bytes) (h : ∀ x ∈ ts, Tile x)
    (hnp : ∀ x ∈ ts, Packet.parse x ≠ .panic) :
    ∃ c', Yields (Compound.next (ε := ε)) ⟨pre ++ ts.flatten, pre.length, decide (ts = [])⟩
      (tileItems pre.length ts) c' ∧ c'.isOver = true := by
  induction ts generalizing pre with
  | nil => exact ⟨_, .nil (compound_fused _ rfl), rfl⟩
  | cons t ts ih =>
    obtain ⟨ht, h⟩ := List.forall_mem_cons.mp h
    obtain ⟨hpt, hnp⟩ := List.forall_mem_cons.mp hnp
    have hn := next_tile (ε := ε) pre t ts.flatten ht hpt
    rw [decide_eq_decide.mpr (tiles_flatten_eq_nil h)] at hn
    rw [List.flatten_cons, tileItems, decide_eq_false (List.cons_ne_nil t ts)]
    cases hok : (Packet.parse t).isOk with
    | true =>
      obtain ⟨c', hy, hc⟩ := ih (pre ++ t) h hnp
      rw [List.length_append, List.append_assoc] at hy
      rw [hok] at hn
      exact ⟨c', .cons hn hy, hc⟩
    | false =>
      rw [hok] at hn
      exact ⟨_, .cons hn (.nil (compound_fused _ rfl)), rfl⟩

theorem compound_collect_tiling {ε : Type} (bs : Bytes) (ts : List Bytes) (hne : bs ≠ [])
    (ht : tiling bs = some ts) (hnp : ∀ t ∈ ts, Packet.parse t ≠ .panic) (fuel : Nat) (hf : ts.length < fuel) :
    ∃ c', (Compound.collect fuel ⟨bs, 0, false⟩ [] : R ε _) = .ok (tileItems 0 ts, true, c') ∧
      c'.isOver = true := by
  obtain ⟨rfl, htile⟩ := (tiling_eq_some_iff _ ts).mp ht
  obtain ⟨c', hy, hc⟩ := tiles_yield (ε := ε) ts [] htile hnp
  rw [decide_eq_false (mt (tiles_flatten_eq_nil htile).mpr hne)] at hy
  exact ⟨c', collect_of_yields (fin := fun acc c => (acc, true, c)) (fun _ _ _ _ _ h => by simp only [Compound.collect, h])
    (fun _ _ _ _ h => by simp only [Compound.collect, h]) hy fuel [] (Nat.lt_of_le_of_lt (tileItems_length_le 0 ts) hf), hc⟩

theorem compound_iter {ε : Type} (bs : Bytes) (ts : List Bytes) (hne : bs ≠ []) (ht : tiling bs = some ts)
    (hnp : ∀ t ∈ ts, Packet.parse t ≠ .panic) (fuel : Nat) (hf : ts.length < fuel) :
    ∃ items c', (Compound.collect fuel ⟨bs, 0, false⟩ [] : R ε _) = .ok (items, true, c') ∧
      items.map (·.1) = throughFirstErr (ts.map Packet.parse) ∧
      items.length ≤ ts.length ∧ c'.isOver = true :=
  let ⟨c', e, ho⟩ := compound_collect_tiling (ε := ε) bs ts hne ht hnp fuel hf
  ⟨_, c', e, tileItems_results 0 ts, tileItems_length_le 0 ts, ho⟩

end Rtcp.Proofs
