/-
  C14 end to end, for compounds whose members are built-in packet builders.  Write side:
  `compound_refines` and `writeInto_ok`.  Read side (`members_parse_back`, shared with the nested
  statement): every accepted member's image is a tile that the generic parser reads as that member
  (`member_accepted`, by cases from the `x_image_tile` of Props/Compose.lean), hence parse back.
-/
import Rtcp.Props.WriterContract
import Rtcp.Props.Writers
import Rtcp.Props.Compose
import Rtcp.Props.Members

namespace Rtcp.Proofs
open Rtcp Rtcp.Impl Rtcp.Spec Rtcp.Props

theorem member_refines (m : Member) (h : m.Inv) : Refines m.toWriter m.image := by
  cases m with
  | sr b => exact Props.sr_refines b
  | rr b => exact Props.rr_refines b
  | bye b => exact Props.bye_refines b
  | app b => exact Props.app_refines b
  | sdes b => exact Props.sdes_refines b
  | fb k f p s m => exact Props.fb_refines k f h p s m

theorem member_accepted (m : Member) (h : m.Inv) (k : Nat) (hk : m.toWriter.calcSize = .ok k) :
    Tile m.image ∧ ∃ p, Packet.parse m.image = .ok p ∧ p.kind? = some m.kind := by
  cases m with
  | sr b => exact have ⟨ht, hp⟩ := Props.sr_image_tile b (FirstErr.nil_of_ok (sr_calcSize b) hk); ⟨ht, _, hp, rfl⟩
  | rr b => exact have ⟨ht, hp⟩ := Props.rr_image_tile b (FirstErr.nil_of_ok (rr_calcSize b) hk); ⟨ht, _, hp, rfl⟩
  | bye b => exact have ⟨ht, hp⟩ := Props.bye_image_tile b (FirstErr.nil_of_ok (bye_calcSize b) hk); ⟨ht, _, hp, rfl⟩
  | app b => exact have ⟨ht, hp⟩ := Props.app_image_tile b (FirstErr.nil_of_ok (app_calcSize b) hk); ⟨ht, _, hp, rfl⟩
  | sdes b =>
    exact have ⟨ht, _, hp, _⟩ := Props.sdes_image_tile b (FirstErr.nil_of_ok (sdes_calcSize b) hk) h; ⟨ht, _, hp, rfl⟩
  | fb kd f p s m =>
    have ⟨ht, hp⟩ := Props.fb_image_tile kd f p s m (FirstErr.nil_of_ok (fb_calcSize kd f h p s m) hk)
    cases kd <;> exact ⟨ht, _, hp, rfl⟩

theorem members_parse_back {ε : Type} (ms : List Member) (hne : ms ≠ [])
    (hacc : ∀ m ∈ ms, m.Inv ∧ ∃ k, m.toWriter.calcSize = .ok k) (fuel : Nat) (hf : ms.length < fuel) :
    Compound.parse (ms.map Member.image).flatten = .ok ⟨(ms.map Member.image).flatten, 0, false⟩ ∧
    (∀ m ∈ ms, ∃ p, Packet.parse m.image = .ok p ∧ p.kind? = some m.kind) ∧
    ∃ items c', (Compound.collect fuel ⟨(ms.map Member.image).flatten, 0, false⟩ [] : R ε _) = .ok (items, true, c') ∧
      items.map (·.1) = ms.map (fun m => Packet.parse m.image) ∧ items.length = ms.length := by
  have hmem : ∀ m ∈ ms, Tile m.image ∧ ∃ p, Packet.parse m.image = .ok p ∧ p.kind? = some m.kind :=
    fun m hm => let ⟨hi, k, hk⟩ := hacc m hm; member_accepted m hi k hk
  have htile : ∀ t ∈ ms.map Member.image, Tile t := List.forall_mem_map.mpr fun m hm => (hmem m hm).1
  have hne' : ms.map Member.image ≠ [] := mt List.map_eq_nil_iff.mp hne
  obtain ⟨items, c', hcol, hmap, hlen⟩ := compound_parse_back_all (ε := ε) _ hne' htile
    (List.forall_mem_map.mpr fun m hm => let ⟨p, hp, _⟩ := (hmem m hm).2; ⟨p, hp⟩) fuel (by rwa [List.length_map])
  rw [List.map_map] at hmap
  rw [List.length_map] at hlen
  exact ⟨compound_parse_flatten _ hne' htile, fun m hm => (hmem m hm).2, items, c', hcol, hmap, hlen⟩

theorem compound_end_to_end {ε : Type} (ms : List Member) (hne : ms ≠ []) (hinv : ∀ m ∈ ms, m.Inv) (n : Nat)
    (hs : CompoundBuilder.calcSize (ms.map Member.toWriter) = .ok n) (buf : Bytes) (hb : n ≤ buf.length)
    (fuel : Nat) (hf : ms.length < fuel) :
    (CompoundBuilder.toWriter (ms.map Member.toWriter)).writeInto buf
        = ((ms.map Member.image).flatten ++ buf.drop n, .ok n) ∧
    (ms.map Member.image).flatten.length = n ∧
    Compound.parse (ms.map Member.image).flatten = .ok ⟨(ms.map Member.image).flatten, 0, false⟩ ∧
    (∀ m ∈ ms, ∃ p, Packet.parse m.image = .ok p ∧ p.kind? = some m.kind) ∧
    ∃ items c', (Compound.collect fuel ⟨(ms.map Member.image).flatten, 0, false⟩ [] : R ε _) = .ok (items, true, c') ∧
      items.map (·.1) = ms.map (fun m => Packet.parse m.image) ∧ items.length = ms.length :=
  have href := compound_refines _ _
    (Pointwise.map Member.toWriter Member.image ms fun m hm => member_refines m (hinv m hm))
  have hsized := ((sizeLoop_ok_iff _ _ 0 0 n).mp hs).1
  ⟨Props.writeInto_ok href hs buf hb, (href.exact n hs).1,
    members_parse_back ms hne (fun m hm => ⟨hinv m hm, hsized _ (List.mem_map_of_mem hm)⟩) fuel hf⟩

end Rtcp.Proofs
