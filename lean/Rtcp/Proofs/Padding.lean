/-
  Padding transparency (C13).  `addPadding p n` rewrites the header and keeps everything from there to
  the old end of `p`; `Pad.Facts p q n` says what a parser can see of that, with `q` a variable.
  A typed parser accepts `q` because framing carries over (`Facts.wf`) and its own bound grows with the
  length.  An accessor returns on `q` what it returns on `p` because what it decodes is a slice of octets
  that are kept (`Facts.sliced`, `Facts.counted`), or, where it looks at the padding, because the reference
  read it is (`X_accessors`, `parseFci_eq`) stops where the padding begins (`Facts.unpadded`).
-/
import Rtcp.Spec.All
import Rtcp.Proofs.ReadLemmas
import Rtcp.Proofs.ParsersFraming
import Rtcp.Proofs.ParsersAccessors
import Rtcp.Proofs.FciDecode
import Rtcp.Proofs.SdesScan
import Rtcp.Proofs.ParsersDispatch

namespace Rtcp.Proofs
open Rtcp Rtcp.Impl Rtcp.Spec
open Rtcp.Proofs.Read Rtcp.Proofs.Acc

namespace Pad

theorem or20_pbit (b : UInt8) : (b ||| 0x20).toNat / 32 % 2 = 1 := by
  rw [UInt8.toNat_or, Nat.or_div_two_pow (n := 5)]; exact Nat.or_mod_two_eq_one.mpr (.inr rfl)
theorem or20_count (b : UInt8) : (b ||| 0x20).toNat % 32 = b.toNat % 32 := by
  rw [UInt8.toNat_or]; exact (Nat.or_mod_two_pow (n := 5)).trans (Nat.or_zero _)
theorem or20_version (b : UInt8) : (b ||| 0x20).toNat / 64 = b.toNat / 64 := by
  rw [UInt8.toNat_or]; exact (Nat.or_div_two_pow (n := 6)).trans (Nat.or_zero _)

/-- `n / 4` more words: a length field that was right for `len` octets is right for `len + n` -/
theorem lengthWords_add {w n len : Nat} (hl : 4 * (w + 1) = len) (h4 : 4 ∣ n) (hmax : len + n ≤ 262144) :
    4 * ((w + n / 4) % 65536 + 1) = len + n := by
  obtain ⟨m, rfl⟩ := h4
  subst hl
  rw [Nat.mul_div_cancel_left m (by decide), Nat.mod_eq_of_lt (by omega), Nat.add_right_comm, Nat.mul_add]

end Pad
open Pad

theorem addPadding_shape (p : Bytes) (n : Nat) (h4 : 4 ≤ p.length) (hn : PadOk p n) :
    (addPadding p n).length = p.length + n ∧
    (addPadding p n).drop 4 = p.drop 4 ++ List.replicate (n - 1) 0 ++ [n.toUInt8] ∧
    pbit (addPadding p n) = true ∧ lastByte (addPadding p n) = n.toUInt8 ∧
    count (addPadding p n) = count p ∧ version (addPadding p n) = version p ∧
    ptype (addPadding p n) = ptype p ∧
    (lengthField p = p.length → lengthField (addPadding p n) = p.length + n) := by
  obtain ⟨-, hn4, hge, -, hmax⟩ := hn
  obtain ⟨b0, b1, l0, l1, rest, rfl⟩ := exists_cons4 h4
  have hn0 : n ≠ 0 := Nat.ne_of_gt (Nat.lt_of_lt_of_le (by decide) hge)
  rw [addPadding, if_neg hn0]
  refine ⟨?_, rfl, decide_eq_true (or20_pbit b0), List.getLastD_concat, or20_count b0, or20_version b0,
    rfl, fun hl => ?_⟩
  · rw [List.length_append, List.length_append, List.length_replicate, Nat.add_assoc]
    exact congrArg _ (Nat.sub_add_cancel (Nat.pos_of_ne_zero hn0))
  · simp only [lengthField, List.cons_append, List.getD_cons_zero, List.getD_cons_succ]
    rw [digits16 (Nat.mod_lt _ (by decide))]
    exact lengthWords_add hl (Nat.dvd_of_mod_eq_zero hn4) hmax

namespace Pad

/-- `q` is `p` with `n` octets of padding added, as far as a parser can tell -/
structure Facts (p q : Bytes) (n : Nat) : Prop where
  h4 : 4 ≤ p.length
  n4 : 4 ≤ n
  len : q.length = p.length + n
  count_eq : count q = count p
  range_eq : ∀ a b, 4 ≤ a → a ≤ b → b ≤ p.length → range q a b = range p a b
  zero : ∀ m, m + 1 < n → u8At q (p.length + m) = 0
  paddingOf_new : paddingOf q = some n.toUInt8
  padLen_new : padLen q = n
  padLen_old : padLen p = 0
  wf : ∀ min pt, WellFramed min pt p → WellFramed min pt q

theorem facts (p : Bytes) (n : Nat) (h4 : 4 ≤ p.length) (hn : PadOk p n) :
    Facts p (addPadding p n) n := by
  obtain ⟨hlen, hdrop, hpb, hlast, hcount, hver, hpt, hlf⟩ := addPadding_shape p n h4 hn
  obtain ⟨hp, -, hge, hle, -⟩ := hn
  have hnn : n.toUInt8.toNat = n := toUInt8_toNat_lt _ (Nat.lt_of_le_of_lt hle (by decide))
  have hpq : paddingOf (addPadding p n) = some n.toUInt8 := by rw [paddingOf, hpb, hlast]; rfl
  -- reads at `4 + i` are reads at `i` of what follows the header, and that is `p.drop 4 ++ padding`
  rw [List.append_assoc] at hdrop
  have hpl : 4 + (p.drop 4).length = p.length := by rw [List.length_drop]; exact Nat.add_sub_cancel' h4
  refine ⟨h4, hge, hlen, hcount, fun a b ha hab hb => ?_, fun m hm => ?_, hpq, ?_, ?_, fun min pt hw => ?_⟩
  · obtain ⟨a', rfl⟩ := Nat.exists_eq_add_of_le ha
    obtain ⟨b', rfl⟩ := Nat.exists_eq_add_of_le (Nat.le_trans ha hab)
    rw [← range_drop, ← range_drop, hdrop, range_left _ _ _ _ (Nat.le_of_add_le_add_left (hpl ▸ hb))]
  · rw [← hpl, Nat.add_assoc, ← u8At_drop, hdrop, u8At_skip rfl,
      u8At_left _ _ _ (by rw [List.length_replicate]; exact Nat.lt_sub_of_add_lt hm), u8At,
      List.getD_eq_getElem?_getD, List.getElem?_replicate]
    split <;> rfl
  · rw [padLen, hpq, Option.getD_some, hnn]
  · rw [padLen, paddingOf, hp]; rfl
  · obtain ⟨hm, -, hv, ht, hl, -⟩ := (wellFramed_iff min pt p).mp hw
    have hext : p.length ≤ (addPadding p n).length := hlen ▸ Nat.le_add_right _ n
    exact (wellFramed_iff min pt _).mpr ⟨Nat.le_trans hm hext, Nat.le_trans h4 hext, hver.trans hv, hpt.trans ht,
      (hlf hl).trans hlen.symm,
      fun _ h0 => Nat.ne_of_gt (Nat.lt_of_lt_of_le (by decide) hge)
        (hnn.symm.trans (congrArg UInt8.toNat (hlast.symm.trans h0)))⟩

variable {ε : Type} {p q : Bytes} {n : Nat}

namespace Facts

/-! what `p` holds past its header is cut out of `q` unchanged; `m` is a length `p` is known to have -/

theorem slice_eq (F : Facts p q n) {m : Nat} (hm : m ≤ p.length) {a b : Nat} (h : 4 ≤ a ∧ a ≤ b ∧ b ≤ m) :
    (slice q a b : R ε Bytes) = slice p a b := by
  have hb : b ≤ p.length := Nat.le_trans h.2.2 hm
  rw [slice_ok q a b ⟨h.2.1, F.len ▸ Nat.le_add_right_of_le hb⟩, slice_ok p a b ⟨h.2.1, hb⟩,
    F.range_eq a b h.1 h.2.1 hb]

/-- an accessor that decodes `data[a..b]` -/
theorem sliced (F : Facts p q n) {α : Type} {f : Bytes → R ε α} {m : Nat} (hm : m ≤ p.length) {a b : Nat}
    (h : 4 ≤ a ∧ a ≤ b ∧ b ≤ m) : slice q a b >>= f = slice p a b >>= f :=
  congrArg (· >>= f) (F.slice_eq hm h)

theorem hCount_eq (F : Facts p q n) : (hCount q : R ε UInt8) = hCount p := by
  rw [hCount_ok q (F.len ▸ Nat.le_add_right_of_le F.h4), hCount_ok p F.h4, F.count_eq]

/-- an accessor that decodes `count` items of `k` octets from `a` on: report blocks, BYE sources -/
theorem counted (F : Facts p q n) {α : Type} (f : Bytes → R ε α) {a k : Nat} (ha : 4 ≤ a)
    (h : a + k * count p ≤ p.length) :
    (do let c ← hCount q; f (← slice q a (a + c.toNat * k))) =
      (do let c ← hCount p; f (← slice p a (a + c.toNat * k))) := by
  rw [F.hCount_eq, hCount_ok p F.h4, R.ok_bind, R.ok_bind, count_toUInt8_toNat, Nat.mul_comm]
  exact F.sliced h ⟨ha, Nat.le_add_right _ _, Nat.le_refl _⟩

theorem u8At_eq (F : Facts p q n) (i : Nat) (h1 : 4 ≤ i) (h2 : i < p.length) : u8At q i = u8At p i := by
  have := congrArg (u8At · 0) (F.range_eq i (i + 1) h1 (Nat.le_succ i) h2)
  rwa [u8At_range _ _ _ _ (Nat.lt_succ_self i), u8At_range _ _ _ _ (Nat.lt_succ_self i)] at this

/-- the body up to where the padding begins: in `q` the `n` octets announced, in `p` none -/
theorem unpadded (F : Facts p q n) (a : Nat) (h1 : 4 ≤ a) (h2 : a ≤ p.length) :
    range q a (q.length - padLen q) = range p a (p.length - padLen p) := by
  rw [F.padLen_new, F.padLen_old, F.len, Nat.add_sub_cancel, Nat.sub_zero]
  exact F.range_eq a p.length h1 h2 (Nat.le_refl _)

theorem padding (F : Facts p q n) {min : Nat} {pt : UInt8} (hw : WellFramed min pt p) :
    (parsePadding q : R ε (Option UInt8)) = .ok (some n.toUInt8) := by
  obtain ⟨-, h4, hl⟩ := wf_len (F.wf _ _ hw)
  rw [parsePadding_ok q h4 hl, F.paddingOf_new]

end Facts

theorem sr_pad (F : Facts p q n) (h : Sr.parse p = .ok p) :
    Sr.parse q = .ok q ∧ (Sr.padding q : R ε (Option UInt8)) = .ok (some n.toUInt8) ∧
    (Sr.ssrc q : R ε UInt32) = Sr.ssrc p ∧ (Sr.ntp q : R ε UInt64) = Sr.ntp p ∧
    (Sr.rtp q : R ε UInt32) = Sr.rtp p ∧ (Sr.packetCount q : R ε UInt32) = Sr.packetCount p ∧
    (Sr.octetCount q : R ε UInt32) = Sr.octetCount p ∧ (Sr.nReports q : R ε UInt8) = Sr.nReports p ∧
    (Sr.reportBlocks q : R ε (List Bytes)) = Sr.reportBlocks p := by
  obtain ⟨hw, hc⟩ := (sr_outcome p).accepts.mp h
  have hm : 28 ≤ p.length := (wf_len hw).1
  exact ⟨(sr_outcome q).accepts.mpr ⟨F.wf _ _ hw, by rw [F.count_eq, F.len]; exact Nat.le_add_right_of_le hc⟩,
    F.padding hw, F.sliced hm (by decide), F.sliced hm (by decide), F.sliced hm (by decide),
    F.sliced hm (by decide), F.sliced hm (by decide), F.hCount_eq, F.counted _ (by decide) hc⟩

theorem rr_pad (F : Facts p q n) (h : Rr.parse p = .ok p) :
    Rr.parse q = .ok q ∧ (Rr.padding q : R ε (Option UInt8)) = .ok (some n.toUInt8) ∧
    (Rr.ssrc q : R ε UInt32) = Rr.ssrc p ∧ (Rr.nReports q : R ε UInt8) = Rr.nReports p ∧
    (Rr.reportBlocks q : R ε (List Bytes)) = Rr.reportBlocks p := by
  obtain ⟨hw, hc⟩ := (rr_outcome p).accepts.mp h
  exact ⟨(rr_outcome q).accepts.mpr ⟨F.wf _ _ hw, by rw [F.count_eq, F.len]; exact Nat.le_add_right_of_le hc⟩,
    F.padding hw, F.sliced (wf_len hw).1 (by decide), F.hCount_eq, F.counted _ (by decide) hc⟩

theorem bye_pad (F : Facts p q n) (h : Bye.parse p = .ok p) :
    Bye.parse q = .ok q ∧ (Bye.padding q : R ε (Option UInt8)) = .ok (some n.toUInt8) ∧
    (Bye.ssrcs q : R ε (List UInt32)) = Bye.ssrcs p ∧
    (Bye.reason q : R ε (Option Slice)) = Bye.reason p := by
  obtain ⟨hw, hc, hr⟩ := (bye_outcome p).accepts.mp h
  have h4o : 4 ≤ 4 + 4 * count p := Nat.le_add_right 4 _
  have hq : Bye.parse q = .ok q := by
    refine (bye_outcome q).accepts.mpr ⟨F.wf _ _ hw, ?_, ?_⟩ <;> rw [F.count_eq, F.len]
    · exact Nat.le_add_right_of_le hc
    -- the octet after the sources is the reason's length in `p`, or else the first octet of padding
    · intro _
      by_cases hlt : 4 + 4 * count p < p.length
      · rw [F.u8At_eq _ h4o hlt]
        exact Nat.le_add_right_of_le (hr hlt)
      · have hn : 1 < n := Nat.lt_of_lt_of_le (by decide) F.n4
        have hz : u8At q p.length = 0 := F.zero 0 hn
        rw [Nat.le_antisymm hc (Nat.not_lt.mp hlt), hz]
        exact Nat.add_le_add_left (Nat.le_of_lt hn) _
  obtain ⟨-, -, a3, -⟩ := bye_accessors (ε := ε) p h
  obtain ⟨-, -, b3, -⟩ := bye_accessors (ε := ε) q hq
  refine ⟨hq, F.padding hw, F.counted _ (Nat.le_refl 4) hc, ?_⟩
  -- `n` octets more and `n` octets of padding: the same test for the presence of a reason
  simp only [a3, b3, F.count_eq, F.len, F.padLen_new, F.padLen_old, Nat.add_le_add_iff_right, Nat.add_zero]
  split
  · rfl
  · next hle =>
    have hlt : 4 + 4 * count p < p.length := Nat.lt_of_succ_lt (Nat.not_le.mp hle)
    rw [F.u8At_eq _ h4o hlt, F.range_eq _ _ (Nat.le_add_right_of_le h4o) (Nat.le_add_right _ _) (hr hlt)]

theorem custom_pad (F : Facts p q n) (pt : UInt8) (min : Nat)
    (h4 : 4 ≤ min) (h : Custom.parse pt min p = .ok p) :
    Custom.parse pt min q = .ok q ∧ (Custom.padding q : R ε (Option UInt8)) = .ok (some n.toUInt8) ∧
    (Custom.body q : R ε Slice) = Custom.body p := by
  obtain ⟨hw, hc⟩ := (custom_outcome pt min h4 p).accepts.mp h
  have hq : Custom.parse pt min q = .ok q :=
    (custom_outcome pt min h4 q).accepts.mpr ⟨F.wf _ _ hw, by
      rw [F.padLen_new, F.len]; exact Nat.add_le_add_right (Nat.le_of_add_right_le hc) n⟩
  obtain ⟨-, a2⟩ := custom_accessors (ε := ε) pt min h4 p h
  obtain ⟨-, b2⟩ := custom_accessors (ε := ε) pt min h4 q hq
  exact ⟨hq, F.padding hw, by rw [a2, b2, F.unpadded 4 (Nat.le_refl 4) F.h4]⟩

/-! `App.parse` is `Custom.parse 204 12`, `Fb.parse k` is `Custom.parse k.pt 12`, and all three read the padding
    with the same function: acceptance and the padding accessor come from `custom_pad` -/

theorem app_pad (F : Facts p q n) (h : App.parse p = .ok p) :
    App.parse q = .ok q ∧ (App.padding q : R ε (Option UInt8)) = .ok (some n.toUInt8) ∧
    (App.ssrc q : R ε UInt32) = App.ssrc p ∧ (hCount q : R ε UInt8) = hCount p ∧
    (App.name q : R ε Bytes) = App.name p ∧ (App.data q : R ε Slice) = App.data p := by
  obtain ⟨hq, hpad, -⟩ := custom_pad (ε := ε) F 204 12 (by decide) h
  have hm : 12 ≤ p.length := ((app_outcome p).framed h).1
  obtain ⟨-, -, -, a4, -⟩ := app_accessors (ε := ε) p h
  obtain ⟨-, -, -, b4, -⟩ := app_accessors (ε := ε) q hq
  exact ⟨hq, hpad, F.sliced hm (by decide), F.hCount_eq, F.slice_eq hm (by decide),
    by rw [a4, b4, F.unpadded 12 (by decide) hm]⟩

theorem fb_pad (F : Facts p q n) (k : FbKind)
    (h : Fb.parse k p = .ok p) :
    Fb.parse k q = .ok q ∧ (Fb.padding q : R ε (Option UInt8)) = .ok (some n.toUInt8) ∧
    (Fb.senderSsrc q : R ε UInt32) = Fb.senderSsrc p ∧ (Fb.mediaSsrc q : R ε UInt32) = Fb.mediaSsrc p ∧
    (hCount q : R ε UInt8) = hCount p ∧
    (∀ f : Fb.FciType, Fb.parseFci k f q = Fb.parseFci k f p) := by
  obtain ⟨hq, hpad, -⟩ := custom_pad (ε := ε) F k.pt 12 (by decide) h
  have hm : 12 ≤ p.length := ((fb_outcome k p).framed h).1
  refine ⟨hq, hpad, F.sliced hm (by decide), ?_, F.hCount_eq, fun f => ?_⟩
  · rw [mediaSsrc_eq (F.len ▸ Nat.le_add_right_of_le hm), mediaSsrc_eq hm, F.slice_eq hm (by decide)]
  · rw [parseFci_eq k f q hq, parseFci_eq k f p h, F.count_eq, F.unpadded 12 (by decide) hm]

theorem sdes_pad (F : Facts p q n) (v : Sdes)
    (h : Sdes.parse p = .ok v) :
    ∃ v', Sdes.parse q = .ok v' ∧ v'.data = q ∧ v'.chunks = v.chunks ∧
      (Sdes.padding v' : R ε (Option UInt8)) = .ok (some n.toUInt8) := by
  obtain ⟨-, hw, hpl, -, -⟩ := sdes_parse_accepts p v h
  refine ⟨⟨q, v.chunks⟩, ?_, rfl, rfl, F.padding hw⟩
  -- the padding is appended after the chunk region
  rw [sdes_parse_congr hw hpl (F.wf _ _ hw) (by rw [F.padLen_new, F.len]; exact Nat.add_le_add_right F.h4 n)
    (F.unpadded 4 (Nat.le_refl 4) F.h4), h]
  rfl

end Pad

theorem kind_parse_pad {p q : Bytes} {n : Nat} (F : Pad.Facts p q n) (k : Kind) (pk : Packet)
    (h : k.parse p = .ok pk) : ∃ pk', k.parse q = .ok pk' := by
  cases k <;> simp only [Kind.parse] at h ⊢
  case sdes =>
    -- `<$>` of `R` is a bind
    obtain ⟨v, hv, -⟩ := R.of_bind h
    obtain ⟨v', hv', -⟩ := Pad.sdes_pad (ε := Unit) F v hv
    exact ⟨_, congrArg (Packet.sdes <$> ·) hv'⟩
  case app => exact ⟨_, congrArg (Packet.app <$> ·) (Pad.app_pad (ε := Unit) F ((app_outcome p).of_map_ok h)).1⟩
  case bye => exact ⟨_, congrArg (Packet.bye <$> ·) (Pad.bye_pad (ε := Unit) F ((bye_outcome p).of_map_ok h)).1⟩
  case rr => exact ⟨_, congrArg (Packet.rr <$> ·) (Pad.rr_pad (ε := Unit) F ((rr_outcome p).of_map_ok h)).1⟩
  case sr => exact ⟨_, congrArg (Packet.sr <$> ·) (Pad.sr_pad (ε := Unit) F ((sr_outcome p).of_map_ok h)).1⟩
  case tfb =>
    exact ⟨_, congrArg (Packet.tfb <$> ·) (Pad.fb_pad (ε := Unit) F .transport ((fb_outcome _ p).of_map_ok h)).1⟩
  case pfb =>
    exact ⟨_, congrArg (Packet.pfb <$> ·) (Pad.fb_pad (ε := Unit) F .payload ((fb_outcome _ p).of_map_ok h)).1⟩

theorem packet_pad {p q : Bytes} {n : Nat} (F : Pad.Facts p q n) (pk : Packet) (h : Packet.parse p = .ok pk)
    (hk : pk.kind? ≠ none) : ∃ pk', Packet.parse q = .ok pk' ∧ pk'.kind? = pk.kind? ∧ pk'.data = q := by
  obtain ⟨h4, hkt, -⟩ := (packet_parses p).of_ok h
  cases hko : kindOfType (ptype p) with
  | none => exact absurd (hkt.trans hko) hk
  | some k =>
    rw [packet_parse_eq p h4, hko] at h
    obtain ⟨pk', hpk'⟩ := kind_parse_pad F k pk h
    obtain ⟨h1, h2, -⟩ := (kind_parses k q).of_ok hpk'
    exact ⟨pk', (kind_parse_accepts hpk').2, h1.trans ((kind_parses k p).of_ok h).1.symm, h2⟩

end Rtcp.Proofs
