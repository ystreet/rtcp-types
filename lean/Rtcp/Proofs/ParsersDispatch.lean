/-
  The generic parser and the conversion matrix (C12).  `Kind.parse` and `Packet.parse` return a value
  that is not simply their input, so each gets one `Parses` statement (Outcome.lean), built from the
  `Outcome`s of the typed parsers and the `Agrees` statement of `Sdes.parse`.
-/
import Rtcp.Spec.All
import Rtcp.Proofs.ParsersFraming
import Rtcp.Proofs.SdesScan

namespace Rtcp.Proofs
open Rtcp Rtcp.Impl Rtcp.Spec

/-- `∃ min`: all `Packet.parse` needs of a typed parser's own framing -/
theorem kind_parses (k : Kind) (bs : Bytes) :
    Parses (k.parse bs) (fun p => p.kind? = some k ∧ p.data = bs ∧ ∃ min, WellFramed min k.pt bs)
      (ErrorTruthful bs k.pt) := by
  cases k
  case sdes => exact (sdes_parse_agrees bs).parses.map _ fun _ ⟨_, ho, hd, _⟩ =>
    ⟨rfl, hd, _, (Option.ite_none_right_eq_some.mp ho).1.1⟩
  case app => exact (app_outcome bs).parses.map _ fun _ h => ⟨rfl, h.1, _, h.2.1⟩
  case bye => exact (bye_outcome bs).parses.map _ fun _ h => ⟨rfl, h.1, _, h.2.1⟩
  case rr => exact (rr_outcome bs).parses.map _ fun _ h => ⟨rfl, h.1, _, h.2.1⟩
  case sr => exact (sr_outcome bs).parses.map _ fun _ h => ⟨rfl, h.1, _, h.2.1⟩
  case tfb => exact (fb_outcome .transport bs).parses.map _ fun _ h => ⟨rfl, h.1, _, h.2.1⟩
  case pfb => exact (fb_outcome .payload bs).parses.map _ fun _ h => ⟨rfl, h.1, _, h.2.1⟩

/-- one branch of a lookup written as nested `if`s -/
theorem ite_eq_some {α : Type} {c : Prop} [Decidable c] {a b : α} {o : Option α}
    (h : (if c then some a else o) = some b) : c ∧ a = b ∨ o = some b := by
  by_cases hc : c
  · rw [if_pos hc] at h; exact .inl ⟨hc, Option.some.inj h⟩
  · rw [if_neg hc] at h; exact .inr h

theorem kindOfType_pt_self (k : Kind) : kindOfType k.pt = some k := by cases k <;> rfl

theorem kindOfType_pt (t : UInt8) (k : Kind) (h : kindOfType t = some k) : t = k.pt := by
  unfold kindOfType at h
  repeat (rcases ite_eq_some h with ⟨rfl, rfl⟩ | h; · rfl)
  cases h

/-- not `rfl`: `Packet.parse` tests 206 before 205, `kindOfType` 205 before 206 -/
theorem packet_parse_eq (bs : Bytes) (h : 4 ≤ bs.length) :
    Packet.parse bs = (match kindOfType (ptype bs) with
                       | some k => k.parse bs
                       | none => Packet.unknown <$> Unknown.parse bs) := by
  rw [Packet.parse, if_neg (Nat.not_lt.mpr h), Read.parsePacketType_ok bs (Nat.le_trans (by decide) h), R.ok_bind]
  generalize ptype bs = t
  simp only [beq_iff_eq]
  cases hk : kindOfType t with
  | some k => obtain rfl := kindOfType_pt t k hk; cases k <;> rfl
  | none =>
    -- no kind has `t` for its type octet, so none of the seven tests fires
    have hn : ∀ (k : Kind) (x : UInt8), x = k.pt → ¬ t = x := fun k x hx e => by
      rw [e, hx, kindOfType_pt_self] at hk; cases hk
    rw [if_neg (hn .app 204 rfl), if_neg (hn .bye 203 rfl), if_neg (hn .rr 201 rfl), if_neg (hn .sdes 202 rfl),
      if_neg (hn .sr 200 rfl), if_neg (hn .pfb 206 rfl), if_neg (hn .tfb 205 rfl)]

theorem packet_parse_short (bs : Bytes) (h : bs.length < 4) :
    Packet.parse bs = .err (.truncated 4 bs.length) := by
  unfold Packet.parse
  simp only [h, if_true]

theorem errorTruthful_own_type (bs : Bytes) (e : ParseError) (h : ErrorTruthful bs (ptype bs) e) :
    ∀ a r, e ≠ .packetTypeMismatch a r := by
  intro a r he
  subst he
  obtain ⟨_, h1, h2, h3⟩ := h
  exact h3 (h1.trans h2.symm)

theorem errorTruthful_any_type (bs : Bytes) (pt pt' : UInt8) (e : ParseError) (h : ErrorTruthful bs pt e)
    (hn : ∀ a r, e ≠ .packetTypeMismatch a r) : ErrorTruthful bs pt' e := by
  cases e <;> first | exact h | exact absurd rfl (hn _ _)

theorem packet_parses (bs : Bytes) :
    Parses (Packet.parse bs) (fun p => 4 ≤ bs.length ∧ p.kind? = kindOfType (ptype bs) ∧ p.data = bs)
      (fun e => ErrorTruthful bs (ptype bs) e ∧ ∀ a r, e ≠ .packetTypeMismatch a r) := by
  rcases Nat.lt_or_ge bs.length 4 with hl | h4
  · exact .inr ⟨_, packet_parse_short bs hl, hl, nofun⟩
  rw [packet_parse_eq bs h4]
  cases hk : kindOfType (ptype bs) with
  | some k =>
    rcases kind_parses k bs with ⟨p, hp, h1⟩ | ⟨e, he, ht⟩
    · exact .inl ⟨p, hp, h4, h1.1, h1.2.1⟩
    · rw [← kindOfType_pt _ _ hk] at ht
      exact .inr ⟨e, he, ht, errorTruthful_own_type bs e ht⟩
  | none =>
    refine ((unknown_outcome bs).parses.map _ fun _ h => ⟨h4, rfl, h.1⟩).imp id fun ⟨e, he, h1, h2⟩ => ?_
    exact ⟨e, he, errorTruthful_any_type bs 0 _ e h1 h2, h2⟩

theorem packet_parse_no_panic (bs : Bytes) : Packet.parse bs ≠ .panic := (packet_parses bs).no_panic

theorem kind_parse_accepts {k : Kind} {bs : Bytes} {p : Packet} (h : k.parse bs = .ok p) :
    Tile bs ∧ Packet.parse bs = .ok p := by
  obtain ⟨-, -, min, hw⟩ := (kind_parses k bs).of_ok h
  have ht : Tile bs := (wf_len hw).2
  refine ⟨ht, ?_⟩
  rw [packet_parse_eq bs ht.1, ((Read.wellFramed_iff _ _ _).mp hw).2.2.2.1, kindOfType_pt_self]
  exact h

theorem tryAs_same (p : Packet) (k : Kind) (h : p.kind? = some k) : p.tryAs k = .ok p := by
  cases p <;> simp only [Packet.kind?] at h <;> cases h <;> simp [Packet.tryAs, Packet.kind?]

theorem tryAs_eq (bs : Bytes) (p : Packet) (k : Kind) (hp : Packet.parse bs = .ok p) :
    p.tryAs k = match p.kind? with
      | none => k.parse p.data
      | some k' => if k' = k then .ok p else .err (.packetTypeMismatch k'.pt k.pt) := by
  obtain ⟨h4, hk, hd⟩ := (packet_parses bs).of_ok hp
  cases hk' : p.kind? with
  | none =>
    cases p <;> simp only [Packet.kind?, reduceCtorEq] at hk'
    rfl
  | some k' =>
    have ht : (hType p.data : R ParseError UInt8) = .ok k'.pt := by
      rw [hd, (header_ok bs h4).2.1, kindOfType_pt _ _ (hk.symm.trans hk')]
    by_cases hkk : k' = k
    · subst hkk
      rw [tryAs_same p k' hk']
      exact (if_pos rfl).symm
    · have hne : ¬ p.kind? = some k := by rw [hk']; exact fun e => hkk (Option.some.inj e)
      show _ = if k' = k then _ else _
      rw [if_neg hkk]
      cases p <;> simp only [Packet.kind?, reduceCtorEq] at hk' <;>
        simp only [Packet.tryAs, hne, if_false, ht, R.ok_bind]

end Rtcp.Proofs
