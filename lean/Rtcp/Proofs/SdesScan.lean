/-
  `Sdes.parse` as a whole: `sdes_parse_agrees` says in one `Agrees` statement what it accepts, what it
  returns and which errors it gives; acceptance, rejection, no panic and truthful errors are read
  off from it.  `sdes_parse_congr` says that beyond the framing checks it reads the chunk region only.
  Then the item and chunk accessors (C09), and the size of a tokenisation.
-/
import Rtcp.Spec.All
import Rtcp.Proofs.ReadLemmas
import Rtcp.Proofs.ParsersFraming
import Rtcp.Proofs.SdesSteps

namespace Rtcp.Proofs
open Rtcp Rtcp.Impl Rtcp.Spec

open SdesAux Rtcp.Proofs.Read

/-- On a well-framed packet: the padding check, then the chunk loop.  (The model's guard
    `chunksEnd > 4` is redundant: the loop returns `[]` at once when `chunksEnd = 4`.) -/
theorem sdes_parse_framed (bs : Bytes) (hf : WellFramed 4 202 bs) :
    Sdes.parse bs =
      if bs.length < 4 + padLen bs then .err (.truncated (4 + padLen bs) bs.length)
      else Sdes.chunkLoop bs (bs.length - padLen bs) 4 [] >>= fun cs => .ok ⟨bs, cs⟩ := by
  have hc := (checkPacket_outcome 4 202 bs (Nat.le_refl 4)).accepts.2 hf
  obtain ⟨-, h4, hl⟩ := wf_len hf
  unfold Sdes.parse
  rw [hc, parsePadding_ok bs h4 hl]
  simp only [R.ok_bind, R.pure_eq]
  unfold padLen
  split
  · rfl
  · split
    · rfl
    · next hlt hgt => rw [chunkLoop_eq, if_neg hgt]; rfl

/-- Everything `Sdes.parse` does: it agrees with the reference decision "well framed, the padding
    fits, the chunk region tokenises", and its errors are truthful. -/
theorem sdes_parse_agrees (bs : Bytes) :
    Agrees (ErrorTruthful bs 202) (fun v cs => v.data = bs ∧ v.chunks.map chunkAsRef = cs ∧
        ∀ c ∈ v.chunks, ∀ it ∈ c.items, ItemOk bs it)
      (Sdes.parse bs)
      (if WellFramed 4 202 bs ∧ 4 + padLen bs ≤ bs.length then refTok (sdesBody bs) else none) := by
  by_cases hf : WellFramed 4 202 bs
  · rw [sdes_parse_framed bs hf]
    by_cases hp : 4 + padLen bs ≤ bs.length
    · have hce : 4 ≤ bs.length - padLen bs := Nat.le_sub_of_add_le hp
      -- `refTok` in bind form, so that `Agrees.bind` applies
      rw [if_neg (Nat.not_lt.mpr hp), if_pos ⟨hf, hp⟩, refTok, ← Option.bind_fun_some (refChunks _ _)]
      exact (chunkLoop_agrees bs (bs.length - padLen bs) (Nat.sub_le _ _) (sdesBody bs).length 4 [] hce
        (by rw [sdesBody, range_length bs 4 _ (Nat.sub_le _ _), Nat.add_sub_cancel' hce]; exact Nat.le_refl _)
        nofun).bind fun cs' cs h => .ok ⟨rfl, h⟩
    · rw [if_pos (Nat.lt_of_not_le hp), if_neg fun h => hp h.2]
      exact .err (Nat.lt_of_not_le hp)
  · rcases checkPacket_outcome 4 202 bs (Nat.le_refl 4) with ⟨-, h⟩ | ⟨e, hc, ht, -⟩
    · exact absurd h hf
    · rw [Sdes.parse, hc, if_neg fun h => hf h.1]
      exact .err ht

theorem sdes_parse_congr {p q : Bytes} (hp : WellFramed 4 202 p) (hpl : 4 + padLen p ≤ p.length)
    (hq : WellFramed 4 202 q) (hql : 4 + padLen q ≤ q.length) (hb : sdesBody q = sdesBody p) :
    Sdes.parse q = (fun v => ⟨q, v.chunks⟩) <$> Sdes.parse p := by
  rw [sdes_parse_framed p hp, sdes_parse_framed q hq, if_neg (Nat.not_lt.mpr hpl), if_neg (Nat.not_lt.mpr hql),
    chunkLoop_congr (Nat.sub_le _ _) (Nat.sub_le _ _) (Nat.le_sub_of_add_le hql) (Nat.le_sub_of_add_le hpl) hb]
  cases Sdes.chunkLoop p (p.length - padLen p) 4 [] <;> rfl

theorem sdes_parse_accepts (bs : Bytes) (v : Sdes) (h : Sdes.parse bs = .ok v) :
    v.data = bs ∧ WellFramed 4 202 bs ∧ 4 + padLen bs ≤ bs.length ∧
    refTok (sdesBody bs) = some (v.chunks.map chunkAsRef) ∧
    (∀ c ∈ v.chunks, ∀ it ∈ c.items, ItemOk bs it) := by
  obtain ⟨cs, hcs, hd, rfl, hall⟩ := (sdes_parse_agrees bs).of_ok h
  split at hcs
  · next hc => exact ⟨hd, hc.1, hc.2, hcs, hall⟩
  · cases hcs

theorem item_length {ε : Type} (it : SdesItem) (h1 : u8At it.data 1 + 2 = it.data.length) :
    (it.length : R ε Nat) = .ok (it.data.length - 2) := by
  rw [SdesItem.length, Read.idx_ok _ _ (h1 ▸ Nat.le_add_left 2 _)]
  exact congrArg R.ok (Nat.eq_sub_of_add_eq h1)

/-- only the item's internal consistency is used, no packet -/
theorem item_accessors {ε : Type} (it : SdesItem) (h1 : u8At it.data 1 + 2 = it.data.length)
    (h8 : u8At it.data 0 = 8 → 3 ≤ it.data.length ∧ u8At it.data 2 + 3 ≤ it.data.length) :
    (it.type : R ε UInt8) = .ok (u8At it.data 0).toUInt8 ∧
    (it.length : R ε Nat) = .ok (it.data.length - 2) ∧
    (u8At it.data 0 ≠ 8 →
      (it.value : R ε Slice) = .ok ⟨it.off + 2, it.data.drop 2⟩) ∧
    (u8At it.data 0 = 8 →
      (it.privPrefixLen : R ε UInt8) = .ok (u8At it.data 2).toUInt8 ∧
      (it.privPrefix : R ε Slice) = .ok ⟨it.off + 3, (it.data.drop 3).take (u8At it.data 2)⟩ ∧
      (it.value : R ε Slice) = .ok ⟨it.off + 3 + u8At it.data 2, it.data.drop (3 + u8At it.data 2)⟩ ∧
      (itemAsRef it).privSplit = some ((it.data.drop 3).take (u8At it.data 2), it.data.drop (3 + u8At it.data 2))) := by
  have h2 : 2 ≤ it.data.length := h1 ▸ Nat.le_add_left 2 _
  have hty : (it.type : R ε UInt8) = .ok (it.data.getD 0 0) :=
    Read.idx_ok _ _ (Nat.lt_of_lt_of_le Nat.zero_lt_two h2)
  have hend : ∀ n, range it.data n it.data.length = it.data.drop n := fun n => by
    rw [range, List.take_length]
  refine ⟨hty.trans (congrArg R.ok (Read.toNat_toUInt8 _).symm), item_length it h1, fun hne => ?_,
    fun he => ?_⟩
  · have hne' : ¬ (it.data.getD 0 0 == SdesItem.PRIV) = true := fun h =>
      hne (congrArg UInt8.toNat (beq_iff_eq.mp h))
    rw [SdesItem.value, hty, R.ok_bind, if_neg hne', Read.sliceS_ok _ _ _ _ ⟨h2, Nat.le_refl _⟩, hend]
  · obtain ⟨h3, hpl⟩ := h8 he
    have he' : it.data.getD 0 0 = SdesItem.PRIV := UInt8.toNat_inj.mp he
    have hp : (it.privPrefixLen : R ε UInt8) = .ok (it.data.getD 2 0) := by
      rw [SdesItem.privPrefixLen, hty, R.ok_bind, he', if_neg (by decide), Read.idx_ok _ _ h3]
    have hvo : (it.privValueOffset : R ε Nat) = .ok (u8At it.data 2 + 3) := by
      rw [SdesItem.privValueOffset, hty, R.ok_bind, he', if_neg (by decide), hp]
      rfl
    refine ⟨hp.trans (congrArg R.ok (Read.toNat_toUInt8 _).symm), ?_, ?_, ?_⟩
    · rw [SdesItem.privPrefix, hty, R.ok_bind, he', if_neg (by decide), hp, R.ok_bind,
        Read.sliceS_ok _ _ _ _ ⟨Nat.le_add_right 3 _, by rw [Nat.add_comm]; exact hpl⟩, List.take_drop]
      rfl
    · rw [SdesItem.value, hty, R.ok_bind, he', if_pos (by decide), hvo, R.ok_bind,
        Read.sliceS_ok _ _ _ _ ⟨hpl, Nat.le_refl _⟩, hend, Nat.add_comm _ 3, Nat.add_assoc]
    · have hd : it.data.drop 2 = it.data.getD 2 0 :: it.data.drop 3 := by
        rw [List.drop_eq_getElem_cons h3, List.getElem_eq_getD 0]
      rw [itemAsRef, RefItem.privSplit, hd]
      exact (if_pos (by rw [List.length_drop]; exact Nat.le_sub_of_add_le hpl)).trans
        (by rw [List.drop_drop]; rfl)

/-- `length()` of a chunk needs of its items only that each length octet counts the octets that
    follow it: no packet, nothing about PRIV -/
theorem chunk_length_of {ε : Type} (c : SdesChunk)
    (h : ∀ it ∈ c.items, u8At it.data 1 + 2 = it.data.length) :
    (c.length : R ε Nat) = .ok (pad4 (4 + (c.items.map (·.data.length)).sum + 1)) := by
  rw [SdesChunk.length, Acc.mapM_ok _ _ c.items fun it hit => item_length it (h it hit), R.ok_bind,
    List.map_map,
    -- `by`: the function under `map` is to be read off the goal by `rw`, not from this proof
    List.map_congr_left (g := (·.data.length)) fun it hit => by
      exact (Nat.add_sub_cancel' (h it hit ▸ Nat.le_add_left 2 _) : 2 + (it.data.length - 2) = _)]
  rfl

theorem chunk_length {ε : Type} (bs : Bytes) (c : SdesChunk) (h : ∀ it ∈ c.items, ItemOk bs it) :
    (c.length : R ε Nat) = .ok (pad4 (4 + (c.items.map (·.data.length)).sum + 1)) :=
  chunk_length_of c fun it hit => (h it hit).2.2.2.1

theorem item_total {ε : Type} {bs : Bytes} {it : SdesItem} (h : ItemOk bs it) :
    (it.type : R ε UInt8) ≠ .panic ∧ (it.length : R ε Nat) ≠ .panic ∧
    (it.value : R ε Slice) ≠ .panic ∧
    ((it.type : R ε UInt8) = .ok 8 →
      (it.privPrefixLen : R ε UInt8) ≠ .panic ∧ (it.privPrefix : R ε Slice) ≠ .panic) := by
  obtain ⟨ht, hlen, hv, hpriv⟩ := item_accessors (ε := ε) it h.2.2.2.1 h.2.2.2.2
  refine ⟨R.ne_panic_of_ok ht, R.ne_panic_of_ok hlen, ?_, fun ht8 => ?_⟩
  · by_cases h8 : u8At it.data 0 = 8
    · exact R.ne_panic_of_ok (hpriv h8).2.2.1
    · exact R.ne_panic_of_ok (hv h8)
  · have h8 : u8At it.data 0 = 8 := by
      rw [ht, R.ok.injEq, u8At, Read.toNat_toUInt8] at ht8
      rw [u8At, ht8]
      rfl
    exact ⟨R.ne_panic_of_ok (hpriv h8).1, R.ne_panic_of_ok (hpriv h8).2.1⟩

theorem refItems_size (fuel pos : Nat) (s : Bytes) (its : List RefItem) (after : Bytes)
    (h : refItems fuel pos s = some (its, after)) : 2 * its.length + after.length ≤ s.length := by
  -- along the tokeniser's own recursion; `cases h` closes the branches that reject
  fun_induction refItems fuel pos s generalizing its after <;> cases h
  · exact Nat.le_refl _
  · rw [List.length_drop, List.length_cons, List.length_nil]
    omega
  · rename_i ih
    have := ih _ _ ‹refItems _ _ _ = _›
    rw [List.length_drop] at this
    simp only [List.length_cons]
    omega

theorem refChunks_size (fuel : Nat) (s : Bytes) (cs : List RefChunk) (h : refChunks fuel s = some cs) :
    4 * cs.length + 2 * (cs.map (·.items.length)).sum ≤ s.length := by
  -- plain induction on `fuel`: `fun_induction refChunks` would generate here the equation lemmas of the
  -- matcher it shares with `words32`, which FciRef generates too; modules importing both then clash
  induction fuel generalizing s cs with
  | zero => cases s <;> cases h; exact Nat.le_refl _
  | succ f ih =>
    match s with
    | [] => cases h; exact Nat.le_refl _
    | a :: b :: c :: d :: rest =>
      rw [refChunks_cons4] at h
      obtain ⟨q, hq, h⟩ := Option.bind_eq_some_iff.mp h
      obtain ⟨cs', hc, rfl⟩ := Option.map_eq_some_iff.mp h
      have h1 := refItems_size _ _ _ _ _ hq
      have h2 := ih _ _ hc
      simp only [List.length_cons, List.map_cons, List.sum_cons]
      omega

end Rtcp.Proofs
