/-
  The interface of `Spec.packet` for the read side: what the header reads of `Rtcp.Spec.Framing` return
  on a packet image, that an image of an accepted size is well framed, and where its body sits.
-/
import Rtcp.Spec.All
import Rtcp.Proofs.ReadLemmas
import Rtcp.Proofs.Images

namespace Rtcp.Proofs.RT
open Rtcp Rtcp.Impl Rtcp.Spec Rtcp.Proofs.Read

/-- the first octet of a packet image is `32 * (4 + P) + count`: V = 2 and P are its top three bits -/
theorem octet0 (pt : UInt8) (c : Nat) (p : UInt8) (body : Bytes) :
    ((packet pt c p body).getD 0 0).toNat = 32 * (4 + (p != 0).toNat) + c % 32 := by
  have hr : c % 32 < 32 := Nat.mod_lt c (by decide)
  show (128 + (if (p != 0) = true then 32 else 0) + c % 32).toUInt8.toNat = _
  cases (p != 0)
  · exact toUInt8_toNat_lt _ (Nat.lt_trans (Nat.add_lt_add_left hr 128) (by decide))
  · exact toUInt8_toNat_lt _ (Nat.lt_trans (Nat.add_lt_add_left hr 160) (by decide))

theorem octet0_fields (e r : Nat) (hr : r < 32) :
    (32 * (4 + e) + r) / 32 = 4 + e ∧ (32 * (4 + e) + r) % 32 = r := by
  rw [Nat.mul_add_div (by decide), Nat.div_eq_of_lt hr, Nat.mul_add_mod, Nat.mod_eq_of_lt hr]
  exact ⟨rfl, rfl⟩

theorem version_packet (pt : UInt8) (c : Nat) (p : UInt8) (body : Bytes) :
    version (packet pt c p body) = 2 := by
  rw [version, octet0, ← Nat.div_div_eq_div_mul _ 32 2, (octet0_fields _ _ (Nat.mod_lt c (by decide))).1]
  cases (p != 0) <;> rfl

theorem ptype_packet (pt : UInt8) (c : Nat) (p : UInt8) (body : Bytes) :
    ptype (packet pt c p body) = pt := rfl

theorem count_packet (pt : UInt8) (c : Nat) (p : UInt8) (body : Bytes) :
    count (packet pt c p body) = c % 32 := by
  rw [count, octet0, (octet0_fields _ _ (Nat.mod_lt c (by decide))).2]

theorem count_packet_lt (pt : UInt8) {c : Nat} (p : UInt8) (body : Bytes) (h : c < 32) :
    count (packet pt c p body) = c := (count_packet pt c p body).trans (Nat.mod_eq_of_lt h)

theorem pbit_packet (pt : UInt8) (c : Nat) (p : UInt8) (body : Bytes) :
    pbit (packet pt c p body) = (p != 0) := by
  rw [pbit, octet0, (octet0_fields _ _ (Nat.mod_lt c (by decide))).1]
  cases (p != 0) <;> rfl

theorem packet_len4 (pt : UInt8) (c : Nat) (p : UInt8) (body : Bytes) :
    4 ≤ (packet pt c p body).length :=
  packet_length .. ▸ Nat.le_add_right_of_le (Nat.le_add_right 4 _)

theorem lengthBytes_packet (pt : UInt8) (c : Nat) (p : UInt8) (body : Bytes)
    (hs : 4 + body.length + p.toNat ≤ 262144) :
    ((packet pt c p body).getD 2 0).toNat * 256 + ((packet pt c p body).getD 3 0).toNat
      = (4 + body.length + p.toNat) / 4 - 1 := by
  have hw : (4 + body.length + p.toNat) / 4 - 1 < 65536 :=
    Nat.sub_one_lt_of_le (Nat.div_pos (Nat.le_add_right_of_le (Nat.le_add_right 4 _)) (by decide))
      (Nat.div_le_of_le_mul hs)
  obtain ⟨a, b, hb, hx⟩ := be16_nat (((4 + body.length + (trailer p).length) / 4 - 1) % 65536).toUInt16
  rw [show packet pt c p body = [_, pt] ++ be16 _ ++ body ++ trailer p from rfl, hb]
  show a.toNat * 256 + b.toNat = _
  rw [hx, trailer_length, toUInt16_toNat_lt _ (Nat.mod_lt _ (by decide)), Nat.mod_eq_of_lt hw]

/-- a packet image of an accepted size (`x_size` in Rules.lean) announces its own length -/
theorem lengthField_of_size {pt : UInt8} {c : Nat} {p : UInt8} {body : Bytes} {n : Nat}
    (hl : (packet pt c p body).length = n) (hs : n % 4 = 0 ∧ n ≤ 262144) :
    lengthField (packet pt c p body) = n := by
  have h4 : 4 ≤ n := hl ▸ packet_len4 ..
  rw [packet_length] at hl
  rw [lengthField, lengthBytes_packet pt c p body (hl ▸ hs.2), hl, Nat.sub_add_cancel (Nat.div_pos h4 (by decide)),
    Nat.mul_div_cancel' (Nat.dvd_of_mod_eq_zero hs.1)]

theorem u8_ne_zero_toNat {p : UInt8} (h : p ≠ 0) : p.toNat ≠ 0 := Proofs.u8_ne_zero_toNat h

theorem lastByte_packet (pt : UInt8) (c : Nat) (p : UInt8) (body : Bytes) (h : p ≠ 0) :
    lastByte (packet pt c p body) = p := by
  simp [lastByte, packet, trailer, h]

theorem paddingOf_packet (pt : UInt8) (c : Nat) (p : UInt8) (body : Bytes) :
    paddingOf (packet pt c p body) = getPaddingOf p := by
  unfold paddingOf getPaddingOf
  rw [pbit_packet]
  by_cases h : p = 0
  · subst h; rfl
  · rw [lastByte_packet _ _ _ _ h, if_pos (bne_iff_ne.mpr h), if_neg fun hb => h (beq_iff_eq.mp hb)]

theorem padLen_packet (pt : UInt8) (c : Nat) (p : UInt8) (body : Bytes) :
    padLen (packet pt c p body) = p.toNat := by
  rw [padLen, paddingOf_packet, getPaddingOf]
  by_cases h : p = 0
  · subst h; rfl
  · rw [if_neg fun hb => h (beq_iff_eq.mp hb)]; rfl

theorem wellFramed_of_size {min : Nat} {pt : UInt8} {c : Nat} {p : UInt8} {body : Bytes} {n : Nat}
    (hl : (packet pt c p body).length = n) (hs : n % 4 = 0 ∧ n ≤ 262144) (hmin : min ≤ n) :
    WellFramed min pt (packet pt c p body) := by
  refine (wellFramed_iff ..).mpr ⟨hl ▸ hmin, packet_len4 .., version_packet .., ptype_packet ..,
    (lengthField_of_size hl hs).trans hl.symm, fun hp => ?_⟩
  rw [pbit_packet, bne_iff_ne] at hp
  rwa [lastByte_packet _ _ _ _ hp]

theorem packet_body_prefix (pt : UInt8) (c : Nat) (p : UInt8) (body : Bytes) :
    body <+: (packet pt c p body).drop 4 :=
  ⟨trailer p, by rw [packet, List.append_assoc, List.drop_left' (header_length ..)]⟩

theorem drop_packet (pt : UInt8) (c : Nat) (p : UInt8) (body : Bytes) :
    (packet pt c p body).drop (4 + body.length) = trailer p :=
  List.drop_left' (by rw [List.length_append, header_length])

/-- padding of two or more octets starts with a zero octet (its last octet is the count) -/
theorem u8At_trailer {pt : UInt8} {c : Nat} {p : UInt8} {body : Bytes} {a : Nat}
    (ha : a + p.toNat = (packet pt c p body).length) (h : 2 ≤ p.toNat) : u8At (packet pt c p body) a = 0 := by
  obtain rfl : a = 4 + body.length := Nat.add_right_cancel (ha.trans (packet_length ..))
  have hp : p ≠ 0 := fun h0 => by rw [h0] at h; cases h
  obtain ⟨k, hk⟩ := Nat.exists_eq_add_of_le' h
  rw [← Nat.add_zero (4 + body.length), ← u8At_drop, drop_packet, trailer, if_neg hp, hk]
  rfl

/-- the bytes from offset `4 + a` to the padding, as the accessors cut them out -/
theorem range_payload (pt : UInt8) (c : Nat) (p : UInt8) (body : Bytes) (a : Nat) :
    range (packet pt c p body) (4 + a) ((packet pt c p body).length - padLen (packet pt c p body))
      = body.drop a := by
  rw [packet_length, padLen_packet, Nat.add_sub_cancel, ← drop_range, range_of_prefix (packet_body_prefix ..)]

theorem sdesBody_packet (pt : UInt8) (count : Nat) (p : UInt8) (body : Bytes) :
    sdesBody (packet pt count p body) = body := RT.range_payload pt count p body 0

end Rtcp.Proofs.RT
