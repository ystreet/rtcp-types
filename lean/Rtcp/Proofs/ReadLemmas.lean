/-
  The model's checked reads (`idx`, `slice`, `fromBeN`) are evaluated once against the reference reads
  `u8At … u64At`, `range`; after that everything is said about the reference reads.  A big-endian read
  depends only on the bytes under it, so `drop` / `range` / `++` are the one-byte case.
-/
import Rtcp.Impl.Compound
import Rtcp.Spec.Framing
import Rtcp.Spec.Dispatch
import Rtcp.Proofs.Bits

namespace Rtcp.Proofs.Read
open Rtcp Rtcp.Impl Rtcp.Spec

theorem shr6 : ∀ b : UInt8, (b >>> 6).toNat = b.toNat / 64 := fun b =>
  (UInt8.toNat_shiftRight b 6).trans (Nat.shiftRight_eq_div_pow _ 6)
theorem and20_toNat (b : UInt8) : (b &&& 0x20).toNat = 32 * (b.toNat / 32 % 2) := by
  rw [UInt8.toNat_and, ← Nat.div_add_mod (b.toNat &&& _) 32, Nat.and_div_two_pow (n := 5),
    Nat.and_mod_two_pow (n := 5)]
  show 32 * (b.toNat / 32 &&& 1) + (b.toNat % 32 &&& 0) = _
  rw [Nat.and_one_is_mod, Nat.and_zero, Nat.add_zero]
theorem and20 (b : UInt8) : ((b &&& 0x20) != 0) = decide (b.toNat / 32 % 2 = 1) := by
  have h := and20_toNat b
  rcases Nat.mod_two_eq_zero_or_one (b.toNat / 32) with e | e <;> rw [e] at h ⊢
  · rw [show b &&& 0x20 = 0 from UInt8.toNat_inj.mp h]; rfl
  · rw [show b &&& 0x20 = 32 from UInt8.toNat_inj.mp h]; rfl
theorem and1f_toNat : ∀ b : UInt8, (b &&& 0x1f).toNat = b.toNat % 32 := fun b =>
  (UInt8.toNat_and b 0x1f).trans (Nat.and_two_pow_sub_one_eq_mod b.toNat 5)
theorem bne2 : ∀ b : UInt8, (b != 2) = decide (b.toNat ≠ 2) := fun _ =>
  Bool.eq_iff_iff.mpr (bne_iff_ne.trans ((not_congr UInt8.toNat_inj.symm).trans decide_eq_true_iff.symm))

theorem and1f (b : UInt8) : (b &&& 0x1f) = (b.toNat % 32).toUInt8 :=
  UInt8.toNat_inj.mp ((and1f_toNat b).trans (toUInt8_toNat_lt _ (by omega)).symm)

theorem toNat_toUInt8 (x : UInt8) : x.toNat.toUInt8 = x := UInt8.ofNat_toNat

theorem toNat_toUInt32 (x : UInt32) : x.toNat.toUInt32 = x := UInt32.ofNat_toNat

theorem toNat_toUInt64 (x : UInt64) : x.toNat.toUInt64 = x := UInt64.ofNat_toNat

theorem idx_ok {ε : Type} (bs : Bytes) (i : Nat) (h : i < bs.length) :
    (idx bs i : R ε UInt8) = .ok (bs.getD i 0) := by
  simp [idx, List.getElem?_eq_getElem h]

theorem idx_panic {ε : Type} (bs : Bytes) (i : Nat) (h : bs.length ≤ i) :
    (idx bs i : R ε UInt8) = .panic := by
  simp [idx, List.getElem?_eq_none h]

theorem idx_drop {ε : Type} (d : Bytes) (i k : Nat) : (idx d (i + k) : R ε UInt8) = idx (d.drop i) k := by
  simp [idx]

theorem slice_ok {ε : Type} (bs : Bytes) (a b : Nat) (h : a ≤ b ∧ b ≤ bs.length) :
    (slice bs a b : R ε Bytes) = .ok (range bs a b) := by
  simp [slice, range, h]

theorem sliceFrom_ok {ε : Type} {bs : Bytes} {a : Nat} (h : a ≤ bs.length) :
    (sliceFrom bs a : R ε Bytes) = .ok (bs.drop a) := by simp [sliceFrom, h]

theorem sliceS_ok {ε : Type} (base : Nat) (bs : Bytes) (a b : Nat) (h : a ≤ b ∧ b ≤ bs.length) :
    (sliceS base bs a b : R ε Slice) = .ok ⟨base + a, range bs a b⟩ := by
  simp [sliceS, range, h]

theorem usub_ok {ε : Type} (a b : Nat) (h : b ≤ a) : (usub a b : R ε Nat) = .ok (a - b) := by
  simp [usub, h]

theorem range_length (bs : Bytes) (a b : Nat) (h : b ≤ bs.length) : (range bs a b).length = b - a := by
  simp [range, Nat.min_eq_left h]

theorem getD_range (bs : Bytes) (a b k : Nat) (h : a + k < b) :
    (range bs a b).getD k 0 = bs.getD (a + k) 0 := by
  simp only [range, List.getD_eq_getElem?_getD, List.getElem?_drop, List.getElem?_take]
  simp [h]

theorem range_range (bs : Bytes) (a b c d : Nat) (h : a + d ≤ b) :
    range (range bs a b) c d = range bs (a + c) (a + d) := by
  simp only [range, List.take_drop, List.take_take, List.drop_drop, Nat.min_eq_left h]

theorem range_drop (bs : Bytes) (k a b : Nat) : range (bs.drop k) a b = range bs (k + a) (k + b) := by
  simp only [range, List.take_drop, List.drop_drop]

theorem drop_range (bs : Bytes) (a b k : Nat) : (range bs a b).drop k = range bs (a + k) b := by
  simp only [range, List.drop_drop]

theorem subSlice_range (bs : Bytes) {a b : Nat} (hab : a ≤ b) (hb : b ≤ bs.length) :
    SubSlice ⟨a, range bs a b⟩ bs := by
  rw [SubSlice, range_length bs a b hb, Nat.add_sub_cancel' hab]
  exact ⟨hb, rfl⟩

theorem range_left (a b : Bytes) (i j : Nat) (h : j ≤ a.length) : range (a ++ b) i j = range a i j := by
  simp only [range, List.take_append_of_le_length h]

theorem range_skip {a : Bytes} {n : Nat} (h : a.length = n) (b : Bytes) (i j : Nat) :
    range (a ++ b) (n + i) (n + j) = range b i j := by
  subst h
  rw [← range_drop, List.drop_left]

theorem range_prefix {a : Bytes} {n : Nat} (h : a.length = n) (b : Bytes) : range (a ++ b) 0 n = a := by
  subst h
  simp [range]

/-! ## a big-endian read depends only on the bytes under it -/

theorem u16At_congr {bs cs : Bytes} {i j : Nat} (h : ∀ k, k < 2 → u8At bs (i + k) = u8At cs (j + k)) :
    u16At bs i = u16At cs j := by
  unfold u16At
  rw [h 1 (by omega), ← Nat.add_zero i, ← Nat.add_zero j, h 0 (by omega)]

theorem u32At_congr {bs cs : Bytes} {i j : Nat} (h : ∀ k, k < 4 → u8At bs (i + k) = u8At cs (j + k)) :
    u32At bs i = u32At cs j := by
  unfold u32At
  rw [u16At_congr (fun k hk => h k (by omega)),
    u16At_congr (i := i + 2) (j := j + 2) (fun k hk => by
      rw [Nat.add_assoc, Nat.add_assoc]; exact h (2 + k) (by omega))]

theorem u64At_congr {bs cs : Bytes} {i j : Nat} (h : ∀ k, k < 8 → u8At bs (i + k) = u8At cs (j + k)) :
    u64At bs i = u64At cs j := by
  unfold u64At
  rw [u32At_congr (fun k hk => h k (by omega)),
    u32At_congr (i := i + 4) (j := j + 4) (fun k hk => by
      rw [Nat.add_assoc, Nat.add_assoc]; exact h (4 + k) (by omega))]

theorem u8At_drop (bs : Bytes) (a i : Nat) : u8At (bs.drop a) i = u8At bs (a + i) := by
  simp [u8At]

theorem u8At_range (bs : Bytes) (a b k : Nat) (h : a + k < b) : u8At (range bs a b) k = u8At bs (a + k) :=
  congrArg UInt8.toNat (getD_range bs a b k h)

theorem u8At_left (a b : Bytes) (i : Nat) (h : i < a.length) : u8At (a ++ b) i = u8At a i := by
  simp [u8At, List.getElem?_append_left h]

theorem u8At_skip {a : Bytes} {n : Nat} (h : a.length = n) (b : Bytes) (i : Nat) :
    u8At (a ++ b) (n + i) = u8At b i := by
  subst h
  simp [u8At, List.getElem?_append_right]

theorem u32At_drop (bs : Bytes) (a i : Nat) : u32At (bs.drop a) i = u32At bs (a + i) :=
  u32At_congr fun k _ => by rw [u8At_drop, Nat.add_assoc]

theorem u64At_drop (bs : Bytes) (a i : Nat) : u64At (bs.drop a) i = u64At bs (a + i) :=
  u64At_congr fun k _ => by rw [u8At_drop, Nat.add_assoc]

/-- the `j`-th byte of a `w`-byte read at `k` in the range `[a, b)` -/
theorem u8At_range_add (bs : Bytes) {a b k j w : Nat} (hj : j < w) (h : a + k + w ≤ b) :
    u8At (range bs a b) (k + j) = u8At bs (a + k + j) := by
  rw [Nat.add_assoc]
  exact u8At_range _ _ _ _ (Nat.lt_of_lt_of_le (Nat.add_assoc a k j ▸ Nat.add_lt_add_left hj (a + k)) h)

theorem u16At_range (bs : Bytes) (a b k : Nat) (h : a + k + 2 ≤ b) : u16At (range bs a b) k = u16At bs (a + k) :=
  u16At_congr fun _ hj => u8At_range_add bs hj h

theorem u32At_range (bs : Bytes) (a b k : Nat) (h : a + k + 4 ≤ b) : u32At (range bs a b) k = u32At bs (a + k) :=
  u32At_congr fun _ hj => u8At_range_add bs hj h

theorem u64At_range (bs : Bytes) (a b k : Nat) (h : a + k + 8 ≤ b) : u64At (range bs a b) k = u64At bs (a + k) :=
  u64At_congr fun _ hj => u8At_range_add bs hj h

theorem u32At_left (a b : Bytes) (i : Nat) (h : i + 4 ≤ a.length) : u32At (a ++ b) i = u32At a i :=
  u32At_congr fun _ hk => u8At_left a b _ (Nat.lt_of_lt_of_le (Nat.add_lt_add_left hk i) h)

theorem u64At_left (a b : Bytes) (i : Nat) (h : i + 8 ≤ a.length) : u64At (a ++ b) i = u64At a i :=
  u64At_congr fun _ hk => u8At_left a b _ (Nat.lt_of_lt_of_le (Nat.add_lt_add_left hk i) h)

theorem u32At_skip {a : Bytes} {n : Nat} (h : a.length = n) (b : Bytes) (i : Nat) :
    u32At (a ++ b) (n + i) = u32At b i :=
  u32At_congr fun k _ => by rw [Nat.add_assoc, u8At_skip h]

theorem u64At_skip {a : Bytes} {n : Nat} (h : a.length = n) (b : Bytes) (i : Nat) :
    u64At (a ++ b) (n + i) = u64At b i :=
  u64At_congr fun k _ => by rw [Nat.add_assoc, u8At_skip h]

theorem u8At_lt (bs : Bytes) (i : Nat) : u8At bs i < 256 := UInt8.toNat_lt _
theorem u16At_lt (bs : Bytes) (i : Nat) : u16At bs i < 65536 := by
  have := u8At_lt bs i; have := u8At_lt bs (i + 1); unfold u16At; omega
theorem u32At_lt (bs : Bytes) (i : Nat) : u32At bs i < 4294967296 := by
  have := u16At_lt bs i; have := u16At_lt bs (i + 2); unfold u32At; omega

/-! ## big-endian reads: `fromBeN` of an N-byte string is the reference read at 0 -/

theorem fromBe16_ok {ε : Type} : ∀ s : Bytes, s.length = 2 → (fromBe16 s : R ε UInt16) = .ok (u16At s 0).toUInt16
  | [_, _], _ => rfl

/-- four base-256 digits, as `u32At` nests them and as `fromBe32` spells them out -/
theorem digits4 (a b c d : Nat) :
    (a * 256 + b) * 65536 + (c * 256 + d) = a * 16777216 + b * 65536 + c * 256 + d := by
  simp only [Nat.add_mul, Nat.mul_assoc, Nat.add_assoc]

theorem fromBe32_ok {ε : Type} : ∀ s : Bytes, s.length = 4 → (fromBe32 s : R ε UInt32) = .ok (u32At s 0).toUInt32
  | [a, b, c, d], _ => congrArg (fun n : Nat => R.ok n.toUInt32) (digits4 a.toNat b.toNat c.toNat d.toNat).symm

theorem fromBe64_ok {ε : Type} : ∀ s : Bytes, s.length = 8 → (fromBe64 s : R ε UInt64) = .ok (u64At s 0).toUInt64
  | [a, b, c, d, e, f, g, h], _ => by
    rw [fromBe64, ← digits4, ← digits4]
    rfl

theorem fromBe16_range {ε : Type} (bs : Bytes) (i : Nat) (h : i + 2 ≤ bs.length) :
    (fromBe16 (range bs i (i + 2)) : R ε UInt16) = .ok (u16At bs i).toUInt16 := by
  rw [fromBe16_ok _ ((range_length _ _ _ h).trans (Nat.add_sub_cancel_left ..)),
    u16At_range bs i (i + 2) 0 (Nat.le_refl _)]
  rfl

theorem fromBe32_range {ε : Type} (bs : Bytes) (i : Nat) (h : i + 4 ≤ bs.length) :
    (fromBe32 (range bs i (i + 4)) : R ε UInt32) = .ok (u32At bs i).toUInt32 := by
  rw [fromBe32_ok _ ((range_length _ _ _ h).trans (Nat.add_sub_cancel_left ..)),
    u32At_range bs i (i + 4) 0 (Nat.le_refl _)]
  rfl

theorem fromBe64_range {ε : Type} (bs : Bytes) (i : Nat) (h : i + 8 ≤ bs.length) :
    (fromBe64 (range bs i (i + 8)) : R ε UInt64) = .ok (u64At bs i).toUInt64 := by
  rw [fromBe64_ok _ ((range_length _ _ _ h).trans (Nat.add_sub_cancel_left ..)),
    u64At_range bs i (i + 8) 0 (Nat.le_refl _)]
  rfl

theorem u32At_be32 (x : UInt32) (t : Bytes) : u32At (be32 x ++ t) 0 = x.toNat := by
  obtain ⟨a, b, c, d, h, e⟩ := be32_nat x
  rw [h, ← e]
  exact digits4 a.toNat b.toNat c.toNat d.toNat

/-- `be64` is two `be32`s, so nothing about eight bytes is needed -/
theorem u64At_be64 (x : UInt64) (t : Bytes) : u64At (be64 x ++ t) 0 = x.toNat := by
  have hx : x.toNat < 4294967296 * 4294967296 := x.toNat_lt
  rw [u64At, be64, List.append_assoc, u32At_be32, u32At_skip (a := be32 _) (n := 4) rfl _ 0, u32At_be32,
    toUInt32_toNat_lt _ (Nat.mod_lt _ (by decide)), toUInt32_toNat_lt _ (Nat.mod_lt _ (by decide)),
    Nat.mod_eq_of_lt (Nat.div_lt_of_lt_mul hx)]
  exact Nat.div_add_mod' _ _

/-! ## fields of an image laid out with `++`

  `s <+: bs.drop a`: the bytes `s` sit in `bs` at offset `a`.  An image `f₁ ++ f₂ ++ … ++ fₙ` sits in
  itself at 0, `prefix_drop_append` (a `simp only` lemma, with the lengths of the fields) splits that
  into one such fact per field, and a reference read at the offset of a field returns the field. -/

theorem add_mul_succ (a k n : Nat) : a + k * (n + 1) = a + k + k * n := by
  rw [Nat.mul_succ, Nat.add_comm (k * n), Nat.add_assoc]

theorem prefix_drop_append {s t bs : Bytes} {a : Nat} :
    s ++ t <+: bs.drop a ↔ s <+: bs.drop a ∧ t <+: bs.drop (a + s.length) := by
  rw [← List.drop_drop]
  generalize bs.drop a = l
  constructor
  · rintro ⟨r, rfl⟩
    rw [List.append_assoc, List.drop_left]
    exact ⟨List.prefix_append _ _, List.prefix_append _ _⟩
  · rintro ⟨⟨r, rfl⟩, h⟩
    rw [List.drop_left] at h
    exact (List.prefix_append_right_inj s).mpr h

theorem range_of_prefix {s bs : Bytes} {a : Nat} (h : s <+: bs.drop a) : range bs a (a + s.length) = s := by
  obtain ⟨r, hr⟩ := h
  rw [range, List.drop_take, Nat.add_sub_cancel_left, ← hr, List.take_left]

theorem u8At_of_prefix {x : UInt8} {t bs : Bytes} {a : Nat} (h : x :: t <+: bs.drop a) :
    u8At bs a = x.toNat := by
  obtain ⟨r, hr⟩ := h
  rw [← Nat.add_zero a, ← u8At_drop, ← hr]
  rfl

theorem u32At_of_prefix {x : UInt32} {bs : Bytes} {a : Nat} (h : be32 x <+: bs.drop a) :
    (u32At bs a).toUInt32 = x := by
  obtain ⟨r, hr⟩ := h
  rw [← Nat.add_zero a, ← u32At_drop, ← hr, u32At_be32, toNat_toUInt32]

theorem u64At_of_prefix {x : UInt64} {bs : Bytes} {a : Nat} (h : be64 x <+: bs.drop a) :
    (u64At bs a).toUInt64 = x := by
  obtain ⟨r, hr⟩ := h
  rw [← Nat.add_zero a, ← u64At_drop, ← hr, u64At_be64, toNat_toUInt64]

/-- a 24-bit number read back from the three low bytes of its encoding, whatever byte precedes them:
    both are the same three digits below a multiple of 2^24 -/
theorem u32At_low24 {c : UInt32} {bs : Bytes} {a : Nat} (hc : c.toNat < 16777216)
    (h : (be32 c).drop 1 <+: bs.drop (a + 1)) : (u32At bs a % 16777216).toUInt32 = c := by
  obtain ⟨c0, c1, c2, c3, hb, hx⟩ := be32_nat c
  rw [hb] at h
  obtain ⟨h1, h⟩ := (prefix_drop_append (s := [c1])).mp h
  obtain ⟨h2, h3⟩ := (prefix_drop_append (s := [c2])).mp h
  have e2 : u8At bs (a + 2) = c2.toNat := u8At_of_prefix h2
  have e3 : u8At bs (a + 2 + 1) = c3.toNat := u8At_of_prefix h3
  have e : u32At bs a % 16777216 = c.toNat := by
    rw [← Nat.mod_eq_of_lt hc, ← hx, u32At, u16At, u16At, u8At_of_prefix h1, e2, e3]
    simp only [Nat.add_mul, Nat.mul_assoc, Nat.add_assoc, Nat.reduceMul, Nat.mul_add_mod_self_right]
  rw [e, toNat_toUInt32]

theorem reads_of_prefix {α β : Type} {k : Nat} {img : α → Bytes} {val : α → β} {rd : Nat → β} {bs : Bytes} :
    ∀ (xs : List α) (a : Nat),
      (∀ x ∈ xs, (img x).length = k ∧ ∀ a, img x <+: bs.drop a → rd a = val x) →
      (xs.map img).flatten <+: bs.drop a → (List.range xs.length).map (fun i => rd (a + k * i)) = xs.map val
  | [], _, _, _ => rfl
  | x :: xs, a, hx, h => by
    rw [List.map_cons, List.flatten_cons, prefix_drop_append, (hx x List.mem_cons_self).1] at h
    rw [List.length_cons, List.range_succ_eq_map, List.map_cons, List.map_map, List.map_cons, Nat.mul_zero,
      Nat.add_zero, (hx x List.mem_cons_self).2 a h.1]
    exact congrArg _ (Eq.trans (List.map_congr_left fun i _ => by rw [Function.comp, add_mul_succ])
      (reads_of_prefix xs (a + k) (fun y hy => hx y (List.mem_cons_of_mem _ hy)) h.2))

theorem ranges_of_prefix {α : Type} {k : Nat} {img : α → Bytes} {bs : Bytes} (xs : List α) (a : Nat)
    (hk : ∀ x ∈ xs, (img x).length = k) (h : (xs.map img).flatten <+: bs.drop a) :
    (List.range xs.length).map (fun i => range bs (a + k * i) (a + k * i + k)) = xs.map img :=
  reads_of_prefix (rd := fun a => range bs a (a + k)) xs a
    (fun x hx => ⟨hk x hx, fun _ h => hk x hx ▸ range_of_prefix h⟩) h

theorem u32s_of_prefix {bs : Bytes} (xs : List UInt32) (a : Nat) (h : (xs.map be32).flatten <+: bs.drop a) :
    (List.range xs.length).map (fun i => (u32At bs (a + 4 * i)).toUInt32) = xs :=
  (reads_of_prefix (k := 4) (img := be32) (val := id) (rd := fun a => (u32At bs a).toUInt32) xs a
    (fun _ _ => ⟨rfl, fun _ => u32At_of_prefix⟩) h).trans (List.map_id _)

/-! ## header helpers of utils.rs -/

theorem parseVersion_ok {ε : Type} (bs : Bytes) (h : 1 ≤ bs.length) :
    (parseVersion bs : R ε UInt8) = .ok (bs.getD 0 0 >>> 6) := by
  simp [parseVersion, idx_ok bs 0 h]

theorem parsePaddingBit_ok {ε : Type} (bs : Bytes) (h : 1 ≤ bs.length) :
    (parsePaddingBit bs : R ε Bool) = .ok (pbit bs) := by
  simp only [parsePaddingBit, idx_ok bs 0 h, R.ok_bind, R.pure_eq, and20, pbit]

theorem parseCount_ok {ε : Type} (bs : Bytes) (h : 1 ≤ bs.length) :
    (parseCount bs : R ε UInt8) = .ok (count bs).toUInt8 := by
  simp only [parseCount, idx_ok bs 0 h, R.ok_bind, R.pure_eq, and1f, count]

theorem parsePacketType_ok {ε : Type} (bs : Bytes) (h : 2 ≤ bs.length) :
    (parsePacketType bs : R ε UInt8) = .ok (ptype bs) := by
  simp only [parsePacketType, idx_ok bs 1 h, ptype]

theorem lengthField_eq (bs : Bytes) : lengthField bs = 4 * (u16At bs 2 + 1) := rfl

theorem parseLength_ok {ε : Type} (bs : Bytes) (h : 4 ≤ bs.length) :
    (parseLength bs : R ε Nat) = .ok (lengthField bs) := by
  simp only [parseLength, slice_ok bs 2 4 ⟨by omega, h⟩, R.ok_bind, R.pure_eq,
    fromBe16_range bs 2 h, toUInt16_toNat_lt _ (u16At_lt bs 2), lengthField_eq]

theorem parseLength_short {ε : Type} (l : Bytes) (h : l.length < 4) :
    (parseLength l : R ε Nat) = .panic := by
  have : ¬ (4 ≤ l.length) := by omega
  simp [parseLength, slice, this]

theorem lengthField_ge (bs : Bytes) : 4 ≤ lengthField bs := Nat.le_mul_of_pos_right 4 (Nat.succ_pos _)

theorem lengthField_take (bs : Bytes) (n : Nat) (h : 4 ≤ n) : lengthField (bs.take n) = lengthField bs := by
  unfold lengthField
  simp only [List.getD_eq_getElem?_getD, List.getElem?_take]
  rw [if_pos (by omega), if_pos (by omega)]

theorem drop_cons4 {d : Bytes} {off : Nat} {a b x y : UInt8} {t : Bytes} (hr : d.drop off = a :: b :: x :: y :: t) :
    off + 4 ≤ d.length ∧ lengthField (d.drop off) = 4 * (x.toNat * 256 + y.toNat + 1) := by
  refine ⟨?_, hr ▸ rfl⟩
  have h : 4 ≤ (d.drop off).length := hr ▸ Nat.le_add_left 4 t.length
  rw [List.length_drop] at h
  exact Nat.lt_sub_iff_add_lt'.mp h

theorem count_lt (bs : Bytes) : count bs < 32 := Nat.mod_lt _ (by decide)

theorem count_toUInt8_toNat (bs : Bytes) : (count bs).toUInt8.toNat = count bs :=
  toUInt8_toNat_lt _ (Nat.lt_trans (count_lt bs) (by decide))

theorem getD_last (bs : Bytes) (h : 1 ≤ bs.length) : bs.getD (bs.length - 1) 0 = lastByte bs := by
  unfold lastByte
  cases bs with
  | nil => simp at h
  | cons x xs =>
    simp [List.getLast?_eq_getElem?]

theorem parsePadding_ok {ε : Type} (bs : Bytes) (h : 4 ≤ bs.length) (hl : lengthField bs = bs.length) :
    (parsePadding bs : R ε (Option UInt8)) = .ok (paddingOf bs) := by
  have h1 : 1 ≤ bs.length := Nat.le_trans (by decide) h
  unfold parsePadding paddingOf
  rw [parsePaddingBit_ok bs h1, R.ok_bind]
  cases pbit bs
  · rfl
  · rw [if_pos rfl, if_pos rfl, parseLength_ok bs h, R.ok_bind, hl, usub_ok bs.length 1 h1, R.ok_bind,
      idx_ok bs (bs.length - 1) (Nat.sub_lt h1 Nat.one_pos), R.ok_bind, getD_last bs h1]
    rfl

theorem wellFramed_iff (min : Nat) (pt : UInt8) (bs : Bytes) :
    WellFramed min pt bs ↔ min ≤ bs.length ∧ 4 ≤ bs.length ∧ version bs = 2 ∧ ptype bs = pt ∧
      lengthField bs = bs.length ∧ (pbit bs = true → lastByte bs ≠ 0) := by
  match bs with
  | [] | [_] | [_, _] | [_, _, _] =>
    exact ⟨False.elim, fun h => absurd h.2.1 (Nat.not_le_of_lt (Nat.le_of_ble_eq_true rfl))⟩
  | b0 :: b1 :: l0 :: l1 :: rest =>
    simp only [WellFramed, version, ptype, lengthField, pbit, lastByte, List.getD_cons_zero,
      List.getD_cons_succ, List.length_cons, decide_eq_true_eq]
    have e : (b0 :: b1 :: l0 :: l1 :: rest).getLast? ≠ some 0 ↔
        (b0 :: b1 :: l0 :: l1 :: rest).getLastD 0 ≠ 0 := by
      rw [List.getLastD_eq_getLast?, List.getLast?_eq_some_getLast (by simp)]; simp
    rw [e]
    exact ⟨fun ⟨h1, h2, h3, h4, h5⟩ => ⟨h1, Nat.le_add_left 4 _, h2, h3, h4, h5⟩,
      fun ⟨h1, _, h2, h3, h4, h5⟩ => ⟨h1, h2, h3, h4, h5⟩⟩

theorem unknownFramed_iff (bs : Bytes) :
    UnknownFramed bs ↔ 4 ≤ bs.length ∧ version bs = 2 ∧ lengthField bs = bs.length := by
  match bs with
  | [] | [_] | [_, _] | [_, _, _] =>
    exact ⟨False.elim, fun h => absurd h.1 (Nat.not_le_of_lt (Nat.le_of_ble_eq_true rfl))⟩
  | b0 :: b1 :: l0 :: l1 :: rest =>
    exact ⟨fun ⟨h1, h2⟩ => ⟨Nat.le_add_left 4 _, h1, h2⟩, fun ⟨_, h1, h2⟩ => ⟨h1, h2⟩⟩

theorem checkPacket_eval (min : Nat) (pt : UInt8) (bs : Bytes) (h4 : 4 ≤ min) :
    checkPacket min pt bs =
      if bs.length < min then .err (.truncated min bs.length)
      else if version bs ≠ 2 then .err (.unsupportedVersion (bs.getD 0 0 >>> 6))
      else if ptype bs ≠ pt then .err (.packetTypeMismatch (ptype bs) pt)
      else if bs.length < lengthField bs then .err (.truncated (lengthField bs) bs.length)
      else if bs.length > lengthField bs then .err (.tooLarge (lengthField bs) bs.length)
      else if pbit bs = true ∧ lastByte bs = 0 then .err .invalidPadding
      else .ok () := by
  unfold checkPacket
  refine ite_congr rfl (fun _ => rfl) fun hm => ?_
  have hlen : 4 ≤ bs.length := Nat.le_trans h4 (Nat.not_lt.mp hm)
  rw [parseVersion_ok bs (Nat.le_trans (by decide) hlen), R.ok_bind]
  refine ite_congr (by rw [bne2, shr6]; exact decide_eq_true_eq) (fun _ => rfl) fun _ => ?_
  rw [parsePacketType_ok bs (Nat.le_trans (by decide) hlen), R.ok_bind]
  refine ite_congr (propext bne_iff_ne) (fun _ => rfl) fun _ => ?_
  rw [parseLength_ok bs hlen, R.ok_bind]
  refine ite_congr rfl (fun _ => rfl) fun h3 => ite_congr rfl (fun _ => rfl) fun h5 => ?_
  rw [parsePadding_ok bs hlen (Nat.le_antisymm (Nat.not_lt.mp h3) (Nat.not_lt.mp h5)), R.ok_bind, paddingOf]
  cases pbit bs
  · rfl
  · exact ite_congr (propext ⟨fun h => ⟨rfl, beq_iff_eq.mp h⟩, fun h => beq_iff_eq.mpr h.2⟩) (fun _ => rfl)
      fun _ => rfl

end Rtcp.Proofs.Read

namespace Rtcp.Proofs.Acc

theorem mapM_loop_ok {ε ι α β : Type} (f : α → R ε β) (r : ι → α) (g : ι → β) (xs : List ι) (acc : List β)
    (h : ∀ x ∈ xs, f (r x) = .ok (g x)) :
    List.mapM.loop f (xs.map r) acc = .ok (acc.reverse ++ xs.map g) := by
  induction xs generalizing acc with
  | nil => simp [List.mapM.loop]
  | cons a as ih =>
    simp only [List.map_cons, List.mapM.loop, h a (by simp), R.ok_bind]
    rw [ih _ (fun x hx => h x (by simp [hx]))]
    simp

theorem mapM_map_ok {ε ι α β : Type} (f : α → R ε β) (r : ι → α) (g : ι → β) (xs : List ι)
    (h : ∀ x ∈ xs, f (r x) = .ok (g x)) : (xs.map r).mapM f = .ok (xs.map g) := by
  simp [List.mapM, mapM_loop_ok f r g xs [] h]

theorem mapM_ok {ε α β : Type} (f : α → R ε β) (g : α → β) (as : List α)
    (h : ∀ a ∈ as, f a = .ok (g a)) : as.mapM f = .ok (as.map g) := by
  have := mapM_map_ok f id g as h
  rwa [List.map_id] at this

end Rtcp.Proofs.Acc
