/-
  The five FCI writers and the feedback packet writer.  An FCI writer is handed `&mut buf[12..]`, so
  it is `Writes`; the three entry loops are instances of `seq_writes`.
-/
import Rtcp.Proofs.Rules

namespace Rtcp.Proofs
open Rtcp Rtcp.Impl Rtcp.Spec Rtcp.Props

theorem nackWordImage_length (w : NackWord) : (nackWordImage w).length = 4 := rfl

theorem nack_writes (b : NackBuilder) (h : b.rtpSeq.Pairwise (· < ·)) :
    Writes b.toFci.w.write (nackImage b) := by
  show Writes (fun buf => NackBuilder.writeEntries b.entries buf 0) _
  rw [nack_entries_eq_image b h]
  refine seq_writes (loop := fun ws => NackBuilder.writeEntries (ws.map nackWordImage)) ⟨fun _ _ => rfl, ?_⟩ _
  intro w ws done buf i hi hr
  simp only [List.map_cons, NackBuilder.writeEntries]
  rw [copyAt_done (b := i + 4) ⟨hi, rfl, hr⟩]; rfl

theorem fir_writes (b : FirBuilder) : Writes b.toFci.w.write (firImage b) := by
  refine seq_writes (loop := FirBuilder.writeEntries) ⟨fun _ _ => rfl, ?_⟩ b.ssrcSeq
  intro ⟨ssrc, seq⟩ es done buf i hi hr
  have hr' : i + 8 ≤ buf.length := hr
  simp only [FirBuilder.writeEntries]
  simp (disch := buf_side) only [copyAt_done]
  -- SSRC, then sequence number and reserved octets: the two copies make up the entry
  rw [List.append_assoc done]; rfl

theorem sli_writes (b : SliBuilder) : Writes b.toFci.w.write (sliImage b) := by
  refine seq_writes (loop := SliBuilder.writeEntries) ⟨fun _ _ => rfl, ?_⟩ b.lostMbs
  intro e es done buf i hi hr
  obtain ⟨e0, e1, e2, e3, he⟩ : ∃ e0 e1 e2 e3, sliEntryImage e = [e0, e1, e2, e3] := ⟨_, _, _, _, rfl⟩
  have hr' : i + 4 ≤ buf.length := hr
  simp only [SliBuilder.writeEntries, sli_encode_eq, he]
  simp (disch := buf_side) only [setByte_done, R.ok_bind]
  -- four stores of one octet make up the entry
  simp only [List.append_assoc, List.cons_append, List.nil_append]; rfl

theorem zeroLoop_done {done buf : Bytes} {i : Nat} (k : Nat) (h : done.length = i ∧ i + k ≤ buf.length) :
    RpsiBuilder.zeroLoop k (done ++ buf.drop i) i
      = .ok ((done ++ List.replicate k 0) ++ buf.drop (i + k), i + k) := by
  induction k generalizing done i with
  | zero => simp [RpsiBuilder.zeroLoop]
  | succ k ih =>
    unfold RpsiBuilder.zeroLoop
    rw [setByte_done 0 ⟨h.1, by omega⟩]
    simp only []
    rw [ih ⟨by simp [h.1], by omega⟩]
    simp [List.replicate_succ, Nat.add_assoc, Nat.add_comm 1 k]

theorem rpsi_writes (b : RpsiBuilder) : Writes b.toFci.w.write (rpsiImage b) := by
  refine Writes.of_done fun r hr => ?_
  rw [rpsiImage_length] at hr ⊢
  -- `f` zero bytes at the end, in the code as in the image
  obtain ⟨f, hf⟩ := pad4_eq_add (2 + b.nativeBitString.length)
  have hsub : 2 + b.nativeBitString.length + f - b.nativeBitString.length - 2 = f := by omega
  rw [hf] at hr ⊢
  show b.writeUnchecked _ = _
  simp only [RpsiBuilder.writeUnchecked, rpsiImage, hf, hsub, Nat.add_sub_cancel_left]
  rcases List.eq_nil_or_concat b.nativeBitString with h | ⟨init, l, h⟩
  · simp only [h, List.length_nil] at hr ⊢
    simp (disch := buf_side) only [List.isEmpty_nil, Bool.not_true, Bool.false_eq_true, ↓reduceIte,
      setByte_done, copyAt_done, zeroLoop_done, R.ok_bind, R.pure_eq]
    rfl
  · rw [List.concat_eq_append] at h
    have hie : (init ++ [l]).isEmpty = false := by simp
    simp only [h, List.length_append, List.length_singleton] at hr ⊢
    simp (disch := buf_side) only [hie, Bool.not_false, ↓reduceIte, setByte_done, copyAt_done, idx_last_done,
      setByte_last_done, zeroLoop_done, R.ok_bind]
    -- what was written is the image, once its last octet and the octets before are those of `init ++ [l]`
    rw [List.getLast?_append, List.getLast?_singleton, Option.some_or, List.dropLast_concat]; rfl

theorem fci_writes (f : FciB) (hf : match f with | .nack b => b.rtpSeq.Pairwise (· < ·) | _ => True) :
    Writes f.toFci.w.write (fciImage f) := by
  cases f with
  | nack b => exact nack_writes b hf
  | fir b => exact fir_writes b
  | sli b => exact sli_writes b
  | rpsi b => exact rpsi_writes b
  | pli => intro r _; rfl

theorem fci_refines (f : FciB) (hf : match f with | .nack b => b.rtpSeq.Pairwise (· < ·) | _ => True) :
    Refines f.toFci.w (fciImage f) :=
  FirstErr.refines (fci_calcSize f hf) fun _ => ⟨rfl, (fci_writes f hf).fills⟩

theorem fci_format (f : FciB) : f.toFci.format.toNat = fciFormat f ∧ fciFormat f ≤ 31 := by
  cases f <;> exact ⟨rfl, by simp [fciFormat]⟩

theorem fb_fills (k : FbKind) (f : FciB)
    (hf : match f with | .nack b => b.rtpSeq.Pairwise (· < ·) | _ => True) (p : UInt8) (s m : UInt32)
    (hk : fciKind f = k) :
    Fills (FbBuilder.writeUnchecked ⟨k, f.toFci, p, s, m⟩) (fbImage k f p s m) := by
  intro buf hl
  have hn := hl.trans (fbImage_length k f p s m)
  obtain ⟨hfmt, h31⟩ := fci_format f
  have hgate : ¬ (FbType.and k.ty f.toFci.supports == FbType.none) = true := by
    rw [fbType_and_comm, fb_kind]; exact not_not_intro hk
  have hfm : ¬ f.toFci.format > 0x1f := by
    simp [UInt8.lt_iff_toNat_lt, hfmt]; omega
  simp only [FbBuilder.writeUnchecked, hgate, hfm, if_false, Bool.false_eq_true]
  rw [writeHeader_eq _ _ _ _ (by omega) (by omega), hfmt]
  simp (disch := buf_side) only [copyAt_done, withTail_done (fci_writes f hf), writePadding_done, R.ok_bind]
  exact packet_done hl (by omega) (by simp only [List.append_assoc])

end Rtcp.Proofs
