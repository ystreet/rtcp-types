/-
  The reference tokeniser on the reference encoder's images (must-accept, C10), and from it and the
  scanner's agreement with the tokeniser the SDES round trip (C03).
-/
import Rtcp.Spec.All
import Rtcp.Proofs.SdesScan
import Rtcp.Proofs.PacketImage
import Rtcp.Proofs.Rules
import Rtcp.Proofs.Bits

namespace Rtcp.Proofs.SdesEnc
open Rtcp Rtcp.Impl Rtcp.Spec

theorem refItem_image (it : SdesItemBuilder) (hr : itemRules it = []) (after : Bytes) :
    ∃ tl, itemImage it ++ after = it.type :: tl ∧
      SdesAux.refItem (itemImage it ++ after) = some (itemCfgAsRef it) ∧
      (itemImage it).length = (itemCfgAsRef it).data.length + 2 := by
  unfold itemRules at hr
  unfold itemImage itemCfgAsRef
  by_cases h8 : it.type = 8
  · rw [if_pos h8] at hr ⊢
    rw [if_pos h8, h8]
    split at hr; · cases hr
    split at hr; · cases hr
    have hl := mod256_toUInt8_toNat (show it.prefix_.length + 1 + it.value.length < 256 by omega)
    have hpl := mod256_toUInt8_toNat (show it.prefix_.length < 256 by omega)
    refine ⟨_, rfl, SdesAux.refItem_head (v := _ :: (it.prefix_ ++ it.value))
      ⟨rfl, ?_, fun _ => ⟨_, _, rfl, ?_⟩⟩, ?_⟩
    · rw [hl, List.length_cons, List.length_append]; omega
    · rw [hpl, List.length_append]; exact Nat.le_add_right _ _
    · simp only [List.length_append, List.length_cons, List.length_nil]; omega
  · rw [if_neg h8] at hr ⊢
    rw [if_neg h8]
    split at hr; · cases hr
    exact ⟨_, rfl, SdesAux.refItem_head
      ⟨rfl, mod256_toUInt8_toNat (show it.value.length < 256 by omega), fun h => absurd h h8⟩, rfl⟩

/-- the tokeniser runs through the items of an image laid out from offset `pos` of a chunk and
    arrives at the fill check behind the terminator -/
theorem refItems_items (its : List SdesItemBuilder) (h : ∀ it ∈ its, itemRules it = [] ∧ it.type ≠ 0)
    (fuel pos : Nat) (rest : Bytes) (hf : ((its.map itemImage).flatten).length < fuel) :
    refItems fuel pos ((its.map itemImage).flatten ++ 0 :: rest) =
      (SdesAux.refFill (pos + ((its.map itemImage).flatten).length + 1) rest).map
        fun q => (its.map itemCfgAsRef ++ q.1, q.2) := by
  obtain ⟨f, rfl⟩ : ∃ f, fuel = f + 1 := ⟨fuel - 1, by omega⟩
  induction its generalizing f pos with
  | nil => exact (SdesAux.refItems_zero f pos rest).trans Option.map_id'.symm
  | cons it its ih =>
    have hit := h it (List.mem_cons_self ..)
    rw [List.map_cons, List.flatten_cons, List.length_append] at hf ⊢
    rw [List.append_assoc]
    obtain ⟨tl, himg, hitem, hlen⟩ := refItem_image it hit.1 ((its.map itemImage).flatten ++ 0 :: rest)
    obtain ⟨f, rfl⟩ : ∃ g, f = g + 1 := ⟨f - 1, by omega⟩
    rw [SdesAux.refItems_item _ pos himg hit.2, hitem, Option.bind_some, ← hlen, List.drop_left,
      ih (fun x hx => h x (List.mem_cons_of_mem _ hx)) _ f (by omega), Option.map_map,
      ← Nat.add_assoc pos]
    rfl

theorem refChunks_be32 (fuel : Nat) (x : UInt32) (rest : Bytes) :
    refChunks (fuel + 1) (be32 x ++ rest) = (refItems rest.length 4 rest).bind fun q =>
      (refChunks fuel q.2).map (⟨x, q.1⟩ :: ·) := by
  obtain ⟨a, b, c, d, h, e⟩ := Proofs.be32_nat x
  rw [h, ← Read.toNat_toUInt32 x, ← e]
  exact SdesAux.refChunks_cons4 fuel a b c d rest

/-- `chunkImage` with the number of fill octets in closed form -/
theorem chunkImage_eq (c : SdesChunkBuilder) :
    chunkImage c = be32 c.ssrc ++ ((c.items.map itemImage).flatten ++ 0 ::
      List.replicate (pad4 (4 + ((c.items.map itemImage).flatten).length + 1) -
        (4 + ((c.items.map itemImage).flatten).length + 1)) 0) := by
  rw [chunkImage, zfill, List.length_append, List.length_append, be32_length, List.append_assoc,
    List.append_assoc]
  rfl

theorem refChunks_chunks (cs : List SdesChunkBuilder) (fuel : Nat)
    (h : ∀ c ∈ cs, ∀ it ∈ c.items, itemRules it = [] ∧ it.type ≠ 0)
    (hf : ((cs.map chunkImage).flatten).length ≤ fuel) :
    refChunks fuel ((cs.map chunkImage).flatten) = some (cs.map chunkCfgAsRef) := by
  induction cs generalizing fuel with
  | nil => rw [List.map_nil, List.flatten_nil, refChunks]; rfl
  | cons c cs ih =>
    rw [List.map_cons, List.flatten_cons, List.length_append, chunkImage_length] at hf
    have := le_pad4 (4 + ((c.items.map itemImage).flatten).length + 1)
    obtain ⟨f, rfl⟩ : ∃ f, fuel = f + 1 := ⟨fuel - 1, by omega⟩
    rw [List.map_cons, List.flatten_cons, chunkImage_eq, List.append_assoc, List.append_assoc,
      List.cons_append, refChunks_be32,
      refItems_items c.items (h c (List.mem_cons_self ..)) _ 4 _
        (by rw [List.length_append, List.length_cons]; omega),
      SdesAux.refFill_zeros, Option.map_some, Option.bind_some, List.append_nil,
      ih f (fun x hx => h x (List.mem_cons_of_mem _ hx)) (by omega)]
    rfl

end Rtcp.Proofs.SdesEnc

namespace Rtcp.Proofs
open Rtcp Rtcp.Impl Rtcp.Spec

theorem refTok_encode (cs : List SdesChunkBuilder)
    (h : ∀ c ∈ cs, ∀ it ∈ c.items, itemRules it = [] ∧ it.type ≠ 0) :
    refTok ((cs.map chunkImage).flatten) = some (cs.map chunkCfgAsRef) :=
  SdesEnc.refChunks_chunks cs _ h (Nat.le_refl _)

theorem sdes_roundtrip {ε : Type} (b : SdesBuilder) (h : sdesRules b = [])
    (hz : ∀ c ∈ b.chunks, ∀ it ∈ c.items, it.type ≠ 0) :
    ∃ v, Sdes.parse (sdesImage b) = .ok v ∧
      v.chunks.map chunkAsRef = b.chunks.map chunkCfgAsRef ∧
      (Sdes.padding v : R ε (Option UInt8)) = .ok (getPaddingOf b.padding) := by
  have hrules := (sdesRules_nil.mp h).2.2.1
  have hw : WellFramed 4 202 (sdesImage b) :=
    RT.wellFramed_of_size (packet_length ..) (sdes_size (h ▸ sdes_calcSize b))
      (Nat.le_add_right_of_le (Nat.le_add_right 4 _))
  have htok : refTok (sdesBody (sdesImage b)) = some (b.chunks.map chunkCfgAsRef) := by
    rw [sdesImage, RT.sdesBody_packet]
    exact refTok_encode b.chunks fun c hc it hit =>
      ⟨List.flatten_eq_nil_iff.mp (hrules c hc) _ (List.mem_map_of_mem hit), hz c hc it hit⟩
  have hfit : 4 + padLen (sdesImage b) ≤ (sdesImage b).length := by
    rw [sdesImage, RT.padLen_packet, packet_length]; omega
  obtain ⟨v, hparse, hd, hmap, -⟩ := (sdes_parse_agrees (sdesImage b)).of_some
    ((if_pos ⟨hw, hfit⟩).trans htok)
  refine ⟨v, hparse, hmap, ?_⟩
  obtain ⟨-, h4, hlf⟩ := wf_len hw
  rw [Sdes.padding, hd, Read.parsePadding_ok _ h4 hlf, sdesImage, RT.paddingOf_packet]

end Rtcp.Proofs
