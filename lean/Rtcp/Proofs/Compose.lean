/-
  Parse back (C14): a concatenation of tiles is accepted by `Compound::parse` and iterates to its
  members; a packet image of an accepted size is a tile (`tile_of_size`).
-/
import Rtcp.Proofs.CompoundParse
import Rtcp.Proofs.PacketImage

namespace Rtcp.Proofs
open Rtcp Rtcp.Impl Rtcp.Spec

theorem compound_parse_flatten (imgs : List Bytes) (hne : imgs ≠ []) (h : ∀ t ∈ imgs, Tile t) :
    Compound.parse imgs.flatten = .ok ⟨imgs.flatten, 0, false⟩ :=
  (compound_parse_ok_iff _ _).mpr ⟨rfl, mt (tiles_flatten_eq_nil h).mp hne, by rw [tiling_flatten imgs h]; rfl⟩

theorem compound_parse_back {ε : Type} (imgs : List Bytes) (hne : imgs ≠ []) (h : ∀ t ∈ imgs, Tile t)
    (hnp : ∀ t ∈ imgs, Packet.parse t ≠ .panic) (fuel : Nat) (hf : imgs.length < fuel) :
    Compound.parse imgs.flatten = .ok ⟨imgs.flatten, 0, false⟩ ∧
    ∃ items c', (Compound.collect fuel ⟨imgs.flatten, 0, false⟩ [] : R ε _) = .ok (items, true, c') ∧
      items.map (·.1) = throughFirstErr (imgs.map Packet.parse) ∧ c'.isOver = true :=
  let ⟨items, c', e, hm, _, ho⟩ := compound_iter (ε := ε) _ imgs (mt (tiles_flatten_eq_nil h).mp hne)
    (tiling_flatten imgs h) hnp fuel hf
  ⟨compound_parse_flatten imgs hne h, items, c', e, hm, ho⟩

theorem compound_parse_back_all {ε : Type} (imgs : List Bytes) (hne : imgs ≠ []) (h : ∀ t ∈ imgs, Tile t)
    (hok : ∀ t ∈ imgs, ∃ p, Packet.parse t = .ok p) (fuel : Nat) (hf : imgs.length < fuel) :
    ∃ items c', (Compound.collect fuel ⟨imgs.flatten, 0, false⟩ [] : R ε _) = .ok (items, true, c') ∧
      items.map (·.1) = imgs.map Packet.parse ∧ items.length = imgs.length :=
  have hnp : ∀ t ∈ imgs, Packet.parse t ≠ .panic := fun t ht => let ⟨_, hp⟩ := hok t ht; R.ne_panic_of_ok hp
  let ⟨_, items, c', e, hm, _⟩ := compound_parse_back (ε := ε) imgs hne h hnp fuel hf
  have hm := hm.trans (throughFirstErr_all_ok _ (List.forall_mem_map.mpr hok))
  ⟨items, c', e, hm, by rw [← List.length_map (f := (·.1)), hm, List.length_map]⟩

theorem tile_of_size {pt : UInt8} {c : Nat} {p : UInt8} {body : Bytes} {n : Nat}
    (hl : (packet pt c p body).length = n) (hs : n % 4 = 0 ∧ n ≤ 262144) : Tile (packet pt c p body) :=
  ⟨RT.packet_len4 pt c p body, (RT.lengthField_of_size hl hs).trans hl.symm⟩

end Rtcp.Proofs
