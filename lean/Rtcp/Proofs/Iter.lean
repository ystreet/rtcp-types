/-
  One notion for the four iterators of the model (`Nack`, `Fir`, `Sli`, `Compound`), each a state
  machine `next` driven by a fuel-bounded `collect`.

  `Yields next s vs s'`: started in `s`, `next` hands out exactly `vs`, in order, and then reports
  the end in state `s'`.  No fuel, no accumulator: what an iterator yields is proved by induction on
  the input, and `collect_of_yields` turns it into a statement about the driver for any fuel
  above the number of items.
-/
import Rtcp.Basic

namespace Rtcp.Proofs
open Rtcp

/-- for `[]` this is the bare equation `next s = .ok (none, s')`, so an end-of-data lemma is a `Yields` -/
def Yields {σ α ε : Type} (next : σ → R ε (Option α × σ)) : σ → List α → σ → Prop
  | s, [], s' => next s = .ok (none, s')
  | s, v :: vs, s' => ∃ t, next s = .ok (some v, t) ∧ Yields next t vs s'

variable {σ α β ε : Type} {next : σ → R ε (Option α × σ)}

theorem Yields.nil {s s' : σ} (h : next s = .ok (none, s')) : Yields next s [] s' := h

theorem Yields.cons {s t s' : σ} {v : α} {vs : List α}
    (h : next s = .ok (some v, t)) (ht : Yields next t vs s') : Yields next s (v :: vs) s' := ⟨t, h, ht⟩

theorem Yields.of_next_eq {s s₂ s' : σ} {vs : List α}
    (h : next s = next s₂) (hy : Yields next s₂ vs s') : Yields next s vs s' := by
  cases vs with
  | nil => exact h.trans hy
  | cons v vs => obtain ⟨t, hn, ht⟩ := hy; exact ⟨t, h.trans hn, ht⟩

/-- `collect` is any function that unfolds like the drivers of the model (its two equations are the
    hypotheses); `fin` is what it returns at the end -/
theorem collect_of_yields {collect : Nat → σ → List α → R ε β} {fin : List α → σ → β}
    (hsome : ∀ fuel s acc v t, next s = .ok (some v, t) → collect (fuel + 1) s acc = collect fuel t (acc ++ [v]))
    (hnone : ∀ fuel s acc t, next s = .ok (none, t) → collect (fuel + 1) s acc = .ok (fin acc t))
    {vs : List α} {s' s : σ} (h : Yields next s vs s') (fuel : Nat) (acc : List α) (hf : vs.length < fuel) :
    collect fuel s acc = .ok (fin (acc ++ vs) s') := by
  induction vs generalizing s fuel acc with
  | nil =>
    obtain ⟨f, rfl⟩ := Nat.exists_eq_add_one.mpr hf
    rw [hnone f s acc s' h, List.append_nil]
  | cons v vs ih =>
    obtain ⟨t, hn, ht⟩ := h
    obtain ⟨f, rfl⟩ := Nat.exists_eq_add_one.mpr (Nat.zero_lt_of_lt hf)
    rw [hsome f s acc v t hn, ih ht f _ (Nat.lt_of_succ_lt_succ hf), List.append_assoc]
    rfl

end Rtcp.Proofs
