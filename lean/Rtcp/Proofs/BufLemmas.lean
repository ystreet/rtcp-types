/-
  While a writer runs over `buf`, the buffer is `done ++ buf.drop a`: the `a` bytes written so far
  followed by the untouched rest of the ORIGINAL buffer.  The `…_done` lemma of each primitive has ONE
  side condition (a conjunction; `withRange_done` and `withTail_done` also take what the inner writer
  does, to be given in the `simp` list), so that `simp (disch := buf_side) only […_done, R.ok_bind]` runs a whole
  straight-line writer, and the only inequality a step ever needs is "the write ends inside `buf`".
  A loop over a list is a `SeqLoop` (its two equations) and runs by `seq_write`.  A writer handed
  `&mut buf[i..]` is `Writes`; a packet writer `Fills` a buffer of the size of its image.
-/
import Rtcp.Proofs.Images

namespace Rtcp.Proofs
open Rtcp Rtcp.Impl Rtcp.Spec

/-- side conditions of the buffer lemmas: the length of what has been written, piece by piece, then
    linear arithmetic -/
macro "buf_side" : tactic =>
  `(tactic| first
    | (simp only [List.length_append, List.length_cons, List.length_nil, List.length_replicate, List.length_drop,
        header_length, be32_length, be64_length, rbImages_length, srcImages_length,
        true_and, and_true] <;> omega)
    | omega)

variable {ε : Type} {done rest buf : Bytes}

theorem setByte_append_cons {ε : Type} {done rest : Bytes} {i : Nat} (x v : UInt8)
    (hi : done.length = i) :
    (setByte (done ++ x :: rest) i v : R ε Bytes) = .ok (done ++ v :: rest) := by
  subst hi; simp [setByte]

theorem copyAt_append {src : Bytes} {a b : Nat}
    (ha : done.length = a) (hb : a + src.length = b) (hr : src.length ≤ rest.length) :
    (copyAt (done ++ rest) a b src : R ε Bytes) = .ok (done ++ src ++ rest.drop src.length) := by
  subst ha; subst hb
  have h : done.length ≤ done.length + src.length ∧ done.length + src.length ≤ (done ++ rest).length ∧
      done.length + src.length - done.length = src.length := by
    simp; omega
  simp only [copyAt, h, and_self, ↓reduceIte]
  simp

theorem fillAt_append {a b : Nat} (v : UInt8)
    (ha : done.length = a) (hab : a ≤ b) (hr : b - a ≤ rest.length) :
    (fillAt (done ++ rest) a b v : R ε Bytes)
      = .ok (done ++ List.replicate (b - a) v ++ rest.drop (b - a)) := by
  subst ha
  have h : done.length ≤ b ∧ b ≤ (done ++ rest).length := by simp; omega
  simp only [fillAt, h, and_self, ↓reduceIte]
  simp [List.drop_append]
  omega

/-- the guarded fill `if a < b { buf[a..b].fill(v) }` (also matches `if b > a`) -/
theorem fillAt_append_if {ε : Type} {done rest : Bytes} {a b : Nat} (v : UInt8)
    (ha : done.length = a) (hab : a ≤ b) (hr : b - a ≤ rest.length) :
    ((if a < b then fillAt (done ++ rest) a b v else pure (done ++ rest)) : R ε Bytes)
      = .ok (done ++ List.replicate (b - a) v ++ rest.drop (b - a)) := by
  split
  · exact fillAt_append v ha hab hr
  · have : b - a = 0 := by omega
    simp [this]

theorem withTail_append {α : Type} {t : Bytes} {a : Nat} {r : α}
    {f : Bytes → R ε (Bytes × α)} (ha : done.length = a) (hf : f rest = .ok (t, r)) :
    withTail (done ++ rest) a f = .ok (done ++ t, r) := by
  subst ha
  simp [withTail, hf]

theorem withTail_append_err {ε α : Type} {done rest : Bytes} {a : Nat} {e : ε}
    {f : Bytes → R ε (Bytes × α)} (ha : done.length = a) (hf : f rest = .err e) :
    withTail (done ++ rest) a f = .err e := by
  subst ha
  simp [withTail, hf]

theorem withRange_append {α : Type} {t : Bytes} {a b : Nat} {r : α}
    {f : Bytes → R ε (Bytes × α)} (ha : done.length = a) (hab : a ≤ b) (hr : b - a ≤ rest.length)
    (hf : f (rest.take (b - a)) = .ok (t, r)) :
    withRange (done ++ rest) a b f = .ok (done ++ t ++ rest.drop (b - a), r) := by
  subst ha
  obtain ⟨k, rfl⟩ := Nat.exists_eq_add_of_le hab
  have hk : done.length + k - done.length = k := by omega
  rw [hk] at hf hr ⊢
  have h : done.length ≤ done.length + k ∧ done.length + k ≤ (done ++ rest).length := by simp; omega
  have h2 : List.drop done.length (List.take (done.length + k) (done ++ rest)) = rest.take k := by
    simp [List.take_length_add_append]
  simp only [withRange, h, and_self, ↓reduceIte, h2, hf]
  simp

theorem setByte_done {i : Nat} (v : UInt8) (h : done.length = i ∧ i < buf.length) :
    (setByte (done ++ buf.drop i) i v : R ε Bytes) = .ok ((done ++ [v]) ++ buf.drop (i + 1)) := by
  rw [List.drop_eq_getElem_cons h.2, setByte_append_cons _ v h.1]
  simp

/-- overwrite the first byte of the block `mid` written just before (`fraction_lost` over the top byte
    of `cumulative_lost`) -/
theorem setByte_mid_done {mid : Bytes} {i : Nat} (v : UInt8) (h : done.length = i ∧ 0 < mid.length) :
    (setByte ((done ++ mid) ++ rest) i v : R ε Bytes) = .ok ((done ++ (v :: mid.drop 1)) ++ rest) := by
  obtain ⟨rfl, hm⟩ := h
  cases mid with
  | nil => simp at hm
  | cons x xs => simp [setByte]

/-- read back, and patch, the last byte of the block written just before (`buf[idx - 1] &= mask` of
    the RPSI writer) -/
theorem idx_last_done {mid : Bytes} {i : Nat} {x : UInt8} (h : (done ++ mid).length = i) :
    (idx ((done ++ (mid ++ [x])) ++ rest) i : R ε UInt8) = .ok x := by
  rw [← List.append_assoc done]
  generalize done ++ mid = d at h
  subst h; simp [idx]

theorem setByte_last_done {mid : Bytes} {i : Nat} {x : UInt8} (v : UInt8) (h : (done ++ mid).length = i) :
    (setByte ((done ++ (mid ++ [x])) ++ rest) i v : R ε Bytes) = .ok ((done ++ (mid ++ [v])) ++ rest) := by
  rw [← List.append_assoc done, ← List.append_assoc done]
  generalize done ++ mid = d at h
  subst h; simp [setByte]

theorem copyAt_done {src : Bytes} {a b : Nat}
    (h : done.length = a ∧ a + src.length = b ∧ b ≤ buf.length) :
    (copyAt (done ++ buf.drop a) a b src : R ε Bytes) = .ok ((done ++ src) ++ buf.drop b) := by
  obtain ⟨rfl, rfl, hb⟩ := h
  rw [copyAt_append rfl rfl (by simp; omega)]
  simp

theorem copyFrom_done {src : Bytes} {a : Nat} (h : done.length = a ∧ a + src.length = buf.length) :
    (copyFrom (done ++ buf.drop a) a src : R ε Bytes) = .ok (done ++ src) := by
  obtain ⟨rfl, hb⟩ := h
  have h : done.length ≤ (done ++ buf.drop done.length).length ∧
      (done ++ buf.drop done.length).length - done.length = src.length := by simp; omega
  simp only [copyFrom, h, and_self, ↓reduceIte]
  simp

theorem fillAt_done {a b : Nat} (v : UInt8) (h : done.length = a ∧ a ≤ b ∧ b ≤ buf.length) :
    (fillAt (done ++ buf.drop a) a b v : R ε Bytes)
      = .ok ((done ++ List.replicate (b - a) v) ++ buf.drop b) := by
  rw [fillAt_append v h.1 h.2.1 (by simp; omega)]
  simp [Nat.add_sub_cancel' h.2.1]

/-- the guarded fill `if a < b { buf[a..b].fill(v) }` with what follows it (the `do` elaborator puts
    the continuation `k` into both branches): when the guard fails there was nothing to fill -/
theorem fillAt_if_done {β : Type} {a b : Nat} (v : UInt8) (k : Bytes → R ε β)
    (h : done.length = a ∧ a ≤ b ∧ b ≤ buf.length) :
    (if a < b then fillAt (done ++ buf.drop a) a b v >>= k else k (done ++ buf.drop a))
      = k ((done ++ List.replicate (b - a) v) ++ buf.drop b) := by
  split
  · rw [fillAt_done v h]; rfl
  · obtain rfl : a = b := by omega
    simp

theorem withRange_done {α : Type} {t : Bytes} {a b : Nat} {r : α} {f : Bytes → R ε (Bytes × α)}
    (h : done.length = a ∧ a ≤ b ∧ b ≤ buf.length) (hf : f ((buf.drop a).take (b - a)) = .ok (t, r)) :
    withRange (done ++ buf.drop a) a b f = .ok ((done ++ t) ++ buf.drop b, r) := by
  rw [withRange_append h.1 h.2.1 (by simp; omega) hf]
  simp [Nat.add_sub_cancel' h.2.1]

def Fills (f : Bytes → R WriteError (Bytes × Nat)) (img : Bytes) : Prop :=
  ∀ buf : Bytes, buf.length = img.length → f buf = .ok (img, img.length)

/-- `f` writes `img` at the front of whatever slice it is handed (`&mut buf[i..]`), leaves the rest
    alone and returns the number of bytes written -/
def Writes (f : Bytes → R WriteError (Bytes × Nat)) (img : Bytes) : Prop :=
  ∀ r : Bytes, img.length ≤ r.length → f r = .ok (img ++ r.drop img.length, img.length)

/-- a run on the slice starts with nothing written -/
theorem Writes.of_done {f : Bytes → R WriteError (Bytes × Nat)} {img : Bytes}
    (h : ∀ buf : Bytes, img.length ≤ buf.length →
      f ([] ++ buf.drop 0) = .ok (img ++ buf.drop img.length, img.length)) : Writes f img := h

/-- the end of such a run: `written` is what the `…_done` lemmas have accumulated, `m` the count returned -/
theorem writes_done {img written : Bytes} {m : Nat} (hw : written = img) (hm : m = img.length) :
    (.ok (written ++ buf.drop m, m) : R ε (Bytes × Nat)) = .ok (img ++ buf.drop img.length, img.length) := by
  rw [hw, hm]

theorem Writes.fills {f : Bytes → R WriteError (Bytes × Nat)} {img : Bytes} (h : Writes f img) :
    Fills f img := fun buf hb => by
  rw [h buf (by omega), List.drop_eq_nil_of_le (by omega), List.append_nil]

theorem withTail_done {f : Bytes → R WriteError (Bytes × Nat)} {img : Bytes} {a : Nat} (hf : Writes f img)
    (h : done.length = a ∧ a + img.length ≤ buf.length) :
    withTail (done ++ buf.drop a) a f = .ok ((done ++ img) ++ buf.drop (a + img.length), img.length) := by
  rw [withTail_append h.1 (hf _ (by simp; omega))]
  simp

/-- a list-writer loop, given by its two equations: each element writes its image at the running
    offset (the `for x in xs { idx += write(x, &mut buf[idx..]) }` of the crate) -/
structure SeqLoop {α : Type} (loop : List α → Bytes → Nat → R WriteError (Bytes × Nat)) (img : α → Bytes) :
    Prop where
  nil : ∀ buf i, loop [] buf i = .ok (buf, i)
  cons : ∀ x xs (done buf : Bytes) i, done.length = i → i + (img x).length ≤ buf.length →
    loop (x :: xs) (done ++ buf.drop i) i
      = loop xs ((done ++ img x) ++ buf.drop (i + (img x).length)) (i + (img x).length)

section
variable {α : Type} {img : α → Bytes} {loop : List α → Bytes → Nat → R WriteError (Bytes × Nat)}
  (hl : SeqLoop loop img) (xs : List α)
include hl

theorem seq_write {i : Nat} (h : done.length = i ∧ i + ((xs.map img).flatten).length ≤ buf.length) :
    loop xs (done ++ buf.drop i) i
      = .ok ((done ++ (xs.map img).flatten) ++ buf.drop (i + ((xs.map img).flatten).length),
          i + ((xs.map img).flatten).length) := by
  induction xs generalizing done i with
  | nil => simp [hl.nil]
  | cons x xs ih =>
    obtain ⟨hi, hr⟩ := h
    simp only [List.map_cons, List.flatten_cons, List.length_append] at hr ⊢
    rw [hl.cons x xs done buf i hi (by omega), ih ⟨by simp [hi], by omega⟩]
    simp [Nat.add_assoc]

theorem seq_writes : Writes (fun buf => loop xs buf 0) ((xs.map img).flatten) :=
  Writes.of_done fun buf h => by
    simpa [-List.length_flatten] using seq_write hl xs (done := []) (buf := buf) (i := 0) ⟨rfl, by rwa [Nat.zero_add]⟩

end

/-- V = 2 and P make up `2 ^ 5 * (4 + P)`, the count stays below `2 ^ 5`: no bit in common, so `|||` adds -/
theorem header_byte (padding count : UInt8) (hc : count.toNat ≤ 31) :
    ((2 : UInt8) <<< 6) ||| (if padding > 0 then 0x20 else 0) ||| count
      = (128 + (if (padding != 0) = true then 32 else 0) + count.toNat % 32).toUInt8 := by
  have hc' : count.toNat < 2 ^ 5 := Nat.lt_succ_of_le hc
  have hp : (padding != 0) = true ↔ padding > 0 := by simp [UInt8.pos_iff_ne_zero]
  rw [Nat.mod_eq_of_lt hc', ← UInt8.toNat_inj, UInt8.toNat_or]
  simp only [hp]
  split  -- the constants evaluate: `(2 <<< 6 ||| 0x20).toNat` is `2 ^ 5 * 5`, `(2 <<< 6 ||| 0).toNat` is `2 ^ 5 * 4`
  · exact (Nat.two_pow_add_eq_or_of_lt hc' 5).symm.trans (toUInt8_toNat_lt _ (by omega)).symm
  · exact (Nat.two_pow_add_eq_or_of_lt hc' 4).symm.trans (toUInt8_toNat_lt _ (by omega)).symm

/-- four bytes or more: the two stores succeed and `len / 4 - 1` does not underflow, whatever the count -/
theorem writeHeader_ok (pt padding count : UInt8) (buf : Bytes) (h4 : 4 ≤ buf.length) :
    (writeHeader pt padding count buf : R ε Bytes)
      = .ok ((((2 : UInt8) <<< 6) ||| (if padding > 0 then 0x20 else 0) ||| count) :: pt ::
          (be16 ((buf.length / 4 - 1) % 65536).toUInt16 ++ buf.drop 4)) := by
  rcases buf with _ | ⟨a, _ | ⟨b, _ | ⟨c, _ | ⟨d, rest⟩⟩⟩⟩ <;> simp at h4
  have h1 : 1 ≤ (rest.length + 1 + 1 + 1 + 1) / 4 := by omega
  simp [writeHeader, setByte, usub, copyAt, h1]

theorem writeHeader_eq (pt padding count : UInt8) (buf : Bytes)
    (h4 : 4 ≤ buf.length) (hc : count.toNat ≤ 31) :
    (writeHeader pt padding count buf : R ε Bytes)
      = .ok (Spec.header pt (padding != 0) count.toNat buf.length ++ buf.drop 4) := by
  rw [writeHeader_ok _ _ _ _ h4, header_byte padding count hc]
  rfl

/-- with the count `len() as u8` of a list of at most 31 entries -/
theorem writeHeader_count (pt padding : UInt8) {n : Nat} (buf : Bytes) (h4 : 4 ≤ buf.length) (hn : n ≤ 31) :
    (writeHeader pt padding (n % 256).toUInt8 buf : R ε Bytes)
      = .ok (Spec.header pt (padding != 0) n buf.length ++ buf.drop 4) := by
  have hc : (n % 256).toUInt8.toNat = n := mod256_toUInt8_toNat (by omega)
  rw [writeHeader_eq _ _ _ _ h4 (hc.symm ▸ hn), hc]

/-- a store keeps the length, or panics -/
theorem setByte_bind_panic {β : Type} {i : Nat} {v : UInt8} {k : Bytes → R ε β}
    (h : ∀ b : Bytes, b.length = buf.length → k b = .panic) : setByte buf i v >>= k = .panic := by
  unfold setByte
  split
  · exact h _ (List.length_set ..)
  · rfl

theorem writePadding_eq (padding : UInt8) (buf : Bytes) (h : padding.toNat ≤ buf.length) :
    (writePadding padding buf : R ε (Bytes × Nat))
      = .ok (Spec.trailer padding ++ buf.drop padding.toNat, padding.toNat) := by
  by_cases hp : padding = 0
  · subst hp; rfl
  · have h2 := Nat.pos_of_ne_zero (u8_ne_zero_toNat hp)
    rw [show buf = [] ++ buf.drop 0 from rfl]
    simp only [writePadding, UInt8.pos_iff_ne_zero.mpr hp, ↓reduceIte, Spec.trailer, hp]
    simp (disch := buf_side) only [fillAt_done, setByte_done, R.ok_bind]
    rw [Nat.sub_add_cancel h2]; rfl

theorem writePadding_writes (p : UInt8) : Writes (writePadding p) (Spec.trailer p) := by
  intro r hr
  rw [trailer_length] at hr ⊢
  exact writePadding_eq p r hr

theorem writePadding_done {a : Nat} (p : UInt8) (h : done.length = a ∧ a + p.toNat ≤ buf.length) :
    (withTail (done ++ buf.drop a) a (writePadding p) : R WriteError (Bytes × Nat))
      = .ok ((done ++ Spec.trailer p) ++ buf.drop (a + p.toNat), p.toNat) := by
  simpa [trailer_length] using withTail_done (writePadding_writes p) (by simpa [trailer_length] using h)

theorem checkPadding_eq_ite (p : UInt8) :
    checkPadding p = if p.toNat % 4 = 0 then .ok () else .err (.invalidPadding p) := by
  have h : p % 4 = 0 ↔ p.toNat % 4 = 0 := UInt8.toNat_inj.symm
  simp only [checkPadding, bne_iff_ne, ne_eq, h, ite_not]

theorem checkPadding_ok_iff_mod (p : UInt8) : checkPadding p = .ok () ↔ p.toNat % 4 = 0 := by
  rw [checkPadding_eq_ite]; split <;> simp [*]

theorem packet_eq (pt : UInt8) (count : Nat) (padding : UInt8) (body : Bytes) {total : Nat}
    (ht : total = 4 + body.length + padding.toNat) :
    Spec.header pt (padding != 0) count total ++ body ++ Spec.trailer padding
      = Spec.packet pt count padding body := by
  subst ht
  simp [Spec.packet, trailer_length]

/-- the end of every packet writer: `buf` is used up and what was written is the packet image -/
theorem packet_done {pt : UInt8} {count : Nat} {padding : UInt8} {body written : Bytes} {m : Nat}
    (hl : buf.length = (Spec.packet pt count padding body).length) (hm : m = buf.length)
    (hw : written = Spec.header pt (padding != 0) count buf.length ++ body ++ Spec.trailer padding) :
    (.ok (written ++ buf.drop m, m) : R ε (Bytes × Nat))
      = .ok (Spec.packet pt count padding body, (Spec.packet pt count padding body).length) := by
  rw [hm, List.drop_length, List.append_nil, hw, packet_eq _ _ _ _ (hl.trans (packet_length ..)), hl]

/-- overwrite the packet type of a header just written (`UnknownBuilder`) -/
theorem setByte_header_pt (pt v : UInt8) (pbit : Bool) (count total : Nat) (rest : Bytes) :
    (setByte (Spec.header pt pbit count total ++ rest) 1 v : R ε Bytes)
      = .ok (Spec.header v pbit count total ++ rest) := by
  simp [Spec.header, setByte]

/-! ## the same facts in a second spelling (`b = d.length + k` for the range, `length_x` for `x_length`) -/

namespace Var

@[simp] theorem length_be16 (x : UInt16) : (be16 x).length = 2 := rfl
@[simp] theorem length_be32 (x : UInt32) : (be32 x).length = 4 := rfl
@[simp] theorem length_header (pt : UInt8) (p : Bool) (c t : Nat) : (Spec.header pt p c t).length = 4 := rfl
theorem length_trailer (p : UInt8) : (Spec.trailer p).length = p.toNat := trailer_length p
theorem pad4_lt (n : Nat) : pad4 n < n + 4 := Proofs.pad4_lt n

theorem withRange_app_ok {ε α : Type} (d r t : Bytes) (x : α) (a b k : Nat) (f : Bytes → R ε (Bytes × α))
    (ha : a = d.length) (hb : b = d.length + k) (hk : k ≤ r.length) (hf : f (r.take k) = .ok (t, x)) :
    withRange (d ++ r) a b f = .ok ((d ++ t) ++ r.drop k, x) := by
  subst ha hb
  have h := withRange_append (f := f) (t := t) (r := x) (rest := r) rfl (Nat.le_add_right d.length k)
  rw [Nat.add_sub_cancel_left] at h
  exact h hk hf

theorem writeHeader_app {ε : Type} (pt padding count : UInt8) (buf : Bytes)
    (h4 : 4 ≤ buf.length) (hc : count.toNat ≤ 31) :
    (writeHeader pt padding count buf : R ε Bytes)
      = .ok (Spec.header pt (padding != 0) count.toNat buf.length ++ buf.drop 4) :=
  writeHeader_eq pt padding count buf h4 hc

theorem writePadding_app {ε : Type} (padding : UInt8) (buf : Bytes) (h : padding.toNat ≤ buf.length) :
    (writePadding padding buf : R ε (Bytes × Nat))
      = .ok (Spec.trailer padding ++ buf.drop padding.toNat, padding.toNat) :=
  writePadding_eq padding buf h

theorem checkPadding_ok {p : UInt8} (h : checkPadding p = .ok ()) : p.toNat % 4 = 0 :=
  (checkPadding_ok_iff_mod p).mp h

end Var

end Rtcp.Proofs
