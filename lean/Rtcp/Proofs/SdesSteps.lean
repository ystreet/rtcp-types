/-
  The SDES scanner against the reference tokeniser, one step at a time (`Agrees.bind`): the scanner's
  loops are cut by one equation per turn, the tokeniser by `refItem`, `refFill` and one equation per case
  of `refItems` / `refChunks`.
-/
import Rtcp.Spec.All
import Rtcp.Proofs.ReadLemmas
import Rtcp.Proofs.Outcome

namespace Rtcp.Proofs.SdesAux
open Rtcp Rtcp.Impl Rtcp.Spec Rtcp.Proofs.Read

theorem itemLoop_eq (base : Nat) (d : Bytes) (off : Nat) (acc : List SdesItem) :
    SdesChunk.itemLoop base d off acc =
      if off < d.length then
        if (d.drop off).head? = some 0 then .ok (acc, off + 1)
        else SdesItem.parse (base + off) (d.drop off) >>= fun p =>
          SdesChunk.itemLoop base d (off + p.2) (acc ++ [p.1])
      else .ok (acc, off) := by
  rw [SdesChunk.itemLoop]
  split
  · rename_i h
    rw [List.head?_drop, List.getElem?_eq_getElem h]
    simp only [beq_iff_eq, Option.some.injEq]
    split
    · rfl
    · split <;> simp only [*, R.ok_bind, R.err_bind, R.panic_bind]
  · rfl

theorem chunkLoop_eq (d : Bytes) (ce off : Nat) (acc : List SdesChunk) :
    Sdes.chunkLoop d ce off acc =
      if off < ce then
        (slice d off ce >>= SdesChunk.parse off) >>= fun p =>
          Sdes.chunkLoop d ce (off + p.2) (acc ++ [p.1])
      else .ok acc := by
  rw [Sdes.chunkLoop]
  split
  · split
    · split <;> simp only [*, R.ok_bind, R.err_bind, R.panic_bind]
    · simp only [*, R.err_bind]
    · simp only [*, R.panic_bind]
  · rfl

/-- strong induction on `lim - off`; the facts about `itemLoop`, `chunkLoop` and their linear versions go
    through this and a one-turn equation -/
theorem loop_induction (lim : Nat) {motive : Nat → Prop}
    (step : ∀ off, (∀ off', off < lim → off < off' → motive off') → motive off) (off : Nat) :
    motive off := by
  induction hn : lim - off using Nat.strongRecOn generalizing off with
  | _ n ih => exact step off fun off' hlt hlt' => ih (lim - off') (by omega) off' rfl

/-- the chunk loop reads `d` only between `off` and `ce` -/
theorem chunkLoop_congr {d d' : Bytes} {ce ce' off : Nat} (hce : ce ≤ d.length) (hce' : ce' ≤ d'.length)
    (ho : off ≤ ce) (ho' : off ≤ ce') (h : range d off ce = range d' off ce') (acc : List SdesChunk) :
    Sdes.chunkLoop d ce off acc = Sdes.chunkLoop d' ce' off acc := by
  obtain rfl : ce = ce' := by
    have := range_length d off ce hce
    rw [h, range_length d' off ce' hce'] at this
    exact (Nat.sub_add_cancel ho).symm.trans ((congrArg (· + off) this.symm).trans (Nat.sub_add_cancel ho'))
  clear ho ho'
  induction off using loop_induction ce generalizing acc with
  | step off ih =>
    rw [chunkLoop_eq d, chunkLoop_eq d']
    split
    · rename_i hlt
      rw [slice_ok d off ce ⟨Nat.le_of_lt hlt, hce⟩, slice_ok d' off ce ⟨Nat.le_of_lt hlt, hce'⟩, h,
        R.ok_bind]
      cases hp : SdesChunk.parse off (range d' off ce) with
      | ok p =>
        exact ih _ hlt (Nat.lt_add_of_pos_right (Nat.lt_of_lt_of_le (by decide) (Sdes.chunk_consumed hp))) _
          (by rw [← drop_range, ← drop_range, h])
      | err e | panic => rfl
    · rfl

/-- the tokeniser on one item: type, length, `length` octets, and for PRIV a prefix that fits -/
def refItem : Bytes → Option RefItem
  | t :: l :: rest =>
    if rest.length < l.toNat then none
    else if t = 8 ∧ RefItem.privSplit ⟨t, rest.take l.toNat⟩ = none then none
    else some ⟨t, rest.take l.toNat⟩
  | _ => none

/-- the tokeniser at the end of a chunk's items, `pos` octets into the chunk: zero fill up to
    the next 32-bit boundary -/
def refFill (pos : Nat) (rest : Bytes) : Option (List RefItem × Bytes) :=
  if rest.length < (4 - pos % 4) % 4 then none
  else if (rest.take ((4 - pos % 4) % 4)).all (· == 0) then some ([], rest.drop ((4 - pos % 4) % 4))
  else none

/-- `d` begins with an item as it is laid out on the wire: type `t`, length octet `l`, the `l` octets
    `v` (for PRIV: the prefix length and a prefix that fits), and goes on with `tail`.  What the
    tokeniser, the scanner and the encoder have in common. -/
structure ItemHead (d : Bytes) (t l : UInt8) (v tail : Bytes) : Prop where
  eq : d = t :: l :: (v ++ tail)
  len : l.toNat = v.length
  priv : t = 8 → ∃ pl r, v = pl :: r ∧ pl.toNat ≤ r.length

theorem refItem_head {d : Bytes} {t l : UInt8} {v tail : Bytes} (h : ItemHead d t l v tail) :
    refItem d = some ⟨t, v⟩ := by
  rw [h.eq, refItem, h.len, if_neg (by rw [List.length_append]; exact Nat.not_lt.mpr (Nat.le_add_right _ _)),
    List.take_left, if_neg]
  rintro ⟨ht, hs⟩
  obtain ⟨pl, r, rfl, hle⟩ := h.priv ht
  exact absurd ((if_pos hle).symm.trans hs) nofun

theorem refFill_zeros (pos : Nat) (tail : Bytes) :
    refFill pos (List.replicate (pad4 pos - pos) 0 ++ tail) = some ([], tail) := by
  rw [pad4_eq, Nat.add_sub_cancel_left, refFill,
    if_neg (by rw [List.length_append, List.length_replicate]; exact Nat.not_lt.mpr (Nat.le_add_right _ _)),
    List.take_left' List.length_replicate, List.drop_left' List.length_replicate,
    if_pos (List.all_eq_true.mpr fun x hx => by rw [List.eq_of_mem_replicate hx]; rfl)]

/-- at the end of the input the alignment check is the fill check with nothing left to read -/
theorem refItems_nil (fuel pos : Nat) : refItems fuel pos [] = refFill pos [] := by
  rw [refItems, refFill]
  have hm := Nat.mod_lt pos (show 0 < 4 by decide)
  generalize pos % 4 = m at hm ⊢
  match m, hm with
  | 0, _ | 1, _ | 2, _ | 3, _ => rfl

theorem refItems_zero (fuel pos : Nat) (rest : Bytes) :
    refItems (fuel + 1) pos (0 :: rest) = refFill (pos + 1) rest := by
  cases rest <;> rw [refItems, if_pos rfl, refFill]

theorem refItems_item (fuel pos : Nat) {d : Bytes} {t : UInt8} {rest : Bytes} (hd : d = t :: rest)
    (ht : t ≠ 0) :
    refItems (fuel + 1) pos d = (refItem d).bind fun it =>
      (refItems fuel (pos + (it.data.length + 2)) (d.drop (it.data.length + 2))).map
        fun p => (it :: p.1, p.2) := by
  subst hd
  match rest with
  | [] => rw [refItems, if_neg ht]; rfl
  | l :: rest =>
    rw [refItems, if_neg ht, refItem]
    dsimp only
    split
    · rfl
    · split
      · rfl
      · rw [Option.bind_some, List.length_take, Nat.min_eq_left (Nat.le_of_not_lt ‹_›), Nat.add_assoc,
          Nat.add_comm 2]
        show _ = Option.map _ (refItems fuel _ (rest.drop l.toNat))
        cases refItems fuel (pos + (l.toNat + 2)) (rest.drop l.toNat) <;> rfl

theorem refChunks_cons4 (fuel : Nat) (a b c d : UInt8) (rest : Bytes) :
    refChunks (fuel + 1) (a :: b :: c :: d :: rest) = (refItems rest.length 4 rest).bind fun q =>
      (refChunks fuel q.2).map
        (⟨(a.toNat * 16777216 + b.toNat * 65536 + c.toNat * 256 + d.toNat).toUInt32, q.1⟩ :: ·) := by
  rw [refChunks]
  cases refItems rest.length 4 rest with
  | none => rfl
  | some q =>
    cases h : refChunks fuel q.2 <;> simp only [h, Option.bind_some, Option.map_some, Option.map_none]

/-- `SdesItem.parse` against `refItem`, leaf by leaf: the same rejections; an accepted input begins
    with an item (`ItemHead`), and that item is what both return -/
theorem item_agrees {bs : Bytes} {pt : UInt8} {P : SdesItem × Nat → RefItem → Prop} (base : Nat)
    (d : Bytes)
    (hP : ∀ t l v tail, ItemHead d t l v tail → P (⟨base, t :: l :: v⟩, 2 + l.toNat) ⟨t, v⟩) :
    Agrees (ErrorTruthful bs pt) P (SdesItem.parse base d) (refItem d) := by
  match d with
  | [] => exact .err (show 0 < 2 by decide)
  | [_] => exact .err (show 1 < 2 by decide)
  | t :: l :: rest =>
    have hl := l.toNat_lt
    unfold SdesItem.parse refItem
    rw [if_neg (show ¬ (t :: l :: rest).length < 2 from Nat.not_lt.mpr (Nat.le_add_left 2 rest.length))]
    -- reads at fixed positions of a list given by its first octets compute: here `idx _ 1` is `l`
    show Agrees _ _ (if 2 + l.toNat > rest.length + 2 then _ else if l.toNat > 255 then _ else _)
      (if _ then _ else _)
    by_cases h1 : rest.length < l.toNat
    · rw [if_pos (by omega), if_pos h1]
      exact .err (show rest.length + 2 < 2 + l.toNat by omega)
    · have htk : (t :: l :: rest).take (2 + l.toNat) = t :: l :: rest.take l.toNat := by
        rw [Nat.add_comm]; rfl
      have hv : l.toNat = (rest.take l.toNat).length := by rw [List.length_take]; omega
      replace hP := fun v (h : rest.take l.toNat = v) hv h8 =>
        hP t l v (rest.drop l.toNat) ⟨by rw [← h, List.take_append_drop], hv, h8⟩
      rw [if_neg (by omega), if_neg (by omega), if_neg h1, htk]
      by_cases h8 : t = 8
      · subst h8
        cases hr : rest.take l.toNat with
        | nil =>
          rw [if_pos ⟨rfl, rfl⟩]
          exact .err (show 2 < 3 by decide)
        | cons pl r =>
          rw [hr] at hv
          have hv' : l.toNat = r.length + 1 := hv
          -- three octets are there, `type` reads 8, `privPrefixLen` reads `pl`, the value starts at `pl + 3`
          show Agrees _ _ (if pl.toNat + 3 > r.length + 1 + 2 then _ else _) _
          by_cases h5 : pl.toNat ≤ r.length
          · rw [if_neg (by omega), if_neg fun h => by
              rw [show RefItem.privSplit ⟨8, pl :: r⟩ = _ from if_pos h5] at h; cases h.2]
            exact .ok (hP _ hr hv fun _ => ⟨pl, r, rfl, h5⟩)
          · rw [if_pos (by omega), if_pos ⟨rfl, if_neg h5⟩, Nat.mod_eq_of_lt hl, usub_ok _ _ (by omega)]
            exact .err trivial
      · -- `type` reads `t`
        show Agrees _ _ (if (t == 8) = true then _ else _) _
        rw [if_neg (show ¬ (t == 8) = true from fun h => h8 (of_decide_eq_true h)), if_neg (fun h => h8 h.1)]
        exact .ok (hP _ rfl hv fun h => absurd h h8)

theorem itemOk_head {bs d : Bytes} {base off : Nat} (hs : SubSlice ⟨base, d⟩ bs) {t l : UInt8}
    {v tail : Bytes} (h : ItemHead (d.drop off) t l v tail) :
    off + (v.length + 2) ≤ d.length ∧ ItemOk bs ⟨base + off, t :: l :: v⟩ := by
  have hlen : d.length - off = v.length + tail.length + 2 := by
    rw [← List.length_drop, h.eq, List.length_cons, List.length_cons, List.length_append]
  have hoe : off + (v.length + 2) ≤ d.length := by omega
  have hle : base + (off + (v.length + 2)) ≤ base + d.length := Nat.add_le_add_left hoe base
  refine ⟨hoe, Nat.le_add_left 2 _, Nat.add_assoc base off _ ▸ Nat.le_trans hle hs.1, ?_,
    congrArg (· + 2) h.len, fun h8 => ?_⟩
  · exact ((range_of_prefix (s := t :: l :: v) ⟨tail, h.eq.symm⟩).symm.trans
      (congrArg (range · off _) hs.2)).trans (Nat.add_assoc base off _ ▸ range_range bs base _ off _ hle)
  · obtain ⟨pl, r, rfl, hpl⟩ := h.priv (UInt8.toNat_inj.mp h8)
    exact ⟨Nat.le_add_left 3 r.length, Nat.add_le_add_right hpl 3⟩

theorem skipZeros_of_le (d : Bytes) {o fe : Nat} (h : fe ≤ o) : SdesChunk.skipZeros d o fe = o := by
  rw [SdesChunk.skipZeros, if_neg fun hc => Nat.not_lt.mpr h hc.1]

theorem skipZeros_spec (d : Bytes) (o fe : Nat) (ho : o ≤ fe) :
    SdesChunk.skipZeros d o fe ≤ fe ∧ (fe ≤ d.length →
      (SdesChunk.skipZeros d o fe = fe ↔ ((d.drop o).take (fe - o)).all (· == 0) = true)) := by
  fun_induction SdesChunk.skipZeros d o fe with
  | case1 o hc ih =>
    refine ⟨(ih hc.1).1, fun hfe => ?_⟩
    have hlt : o < d.length := Nat.lt_of_lt_of_le hc.1 hfe
    rw [List.drop_eq_getElem_cons hlt, ← Nat.succ_pred_eq_of_pos (Nat.sub_pos_of_lt hc.1),
      List.take_succ_cons, List.all_cons, Option.some.inj ((List.getElem?_eq_getElem hlt).symm.trans hc.2)]
    exact (ih hc.1).2 hfe
  | case2 o hc =>
    refine ⟨ho, fun hfe => ?_⟩
    by_cases hlt : o < fe
    · have hlt' : o < d.length := Nat.lt_of_lt_of_le hlt hfe
      have hz : d[o] ≠ 0 := fun h => hc ⟨hlt, by rw [List.getElem?_eq_getElem hlt', h]⟩
      rw [List.drop_eq_getElem_cons hlt', ← Nat.succ_pred_eq_of_pos (Nat.sub_pos_of_lt hlt),
        List.take_succ_cons, List.all_cons]
      exact ⟨fun h => absurd h (Nat.ne_of_lt hlt),
        fun h => absurd (of_decide_eq_true (Bool.and_eq_true_iff.mp h).1) hz⟩
    · obtain rfl : o = fe := Nat.le_antisymm ho (Nat.le_of_not_lt hlt)
      rw [Nat.sub_self, List.take_zero]
      exact ⟨fun _ => rfl, fun _ => rfl⟩

/-- what `SdesChunk.parse` does after the item loop: skip the fill, check the alignment -/
def scanFill (d : Bytes) (p : List SdesItem × Nat) : R ParseError (List SdesItem × Nat) :=
  let off' := SdesChunk.skipZeros d p.2 (min (pad4 p.2) d.length)
  if pad4 off' != off' then .err (.truncated (pad4 off') off') else .ok (p.1, off')

/-- chunk too short or fill not zero: either way the skipper stops short of the boundary -/
theorem scanFill_agrees {bs : Bytes} {pt : UInt8} (d : Bytes) (acc : List SdesItem) (o : Nat)
    (ho : o ≤ d.length) {P : List SdesItem × Nat → List RefItem × Bytes → Prop}
    (hP : ∀ x, o ≤ x → x ≤ d.length → P (acc, x) ([], d.drop x)) :
    Agrees (ErrorTruthful bs pt) P (scanFill d (acc, o)) (refFill o (d.drop o)) := by
  have hk := pad4_eq o
  -- stopping short of the boundary is an alignment error
  have short : ∀ {x}, pad4 x ≠ x → Agrees (ErrorTruthful bs pt) P
      (if pad4 x != x then .err (.truncated (pad4 x) x) else .ok (acc, x)) none := fun hne => by
    rw [if_pos (bne_iff_ne.mpr hne)]
    exact .err (Nat.lt_of_le_of_ne (le_pad4 _) (Ne.symm hne))
  unfold refFill scanFill
  generalize (4 - o % 4) % 4 = k at hk ⊢
  rw [List.length_drop]
  dsimp only
  have hge := Sdes.skipZeros_ge d o (min (pad4 o) d.length)
  by_cases hs : d.length - o < k
  · have hlt : d.length < pad4 o := by omega
    rw [if_pos hs]
    rw [Nat.min_eq_right (Nat.le_of_lt hlt)] at hge ⊢
    exact short (pad4_ne hge (Nat.lt_of_le_of_lt (skipZeros_spec d o _ ho).1 hlt))
  · have hle : pad4 o ≤ d.length := by omega
    rw [if_neg hs]
    rw [Nat.min_eq_left hle] at hge ⊢
    obtain ⟨hx, hfull⟩ := skipZeros_spec d o (pad4 o) (le_pad4 o)
    replace hfull := hfull hle
    rw [hk, Nat.add_sub_cancel_left, ← hk] at hfull
    cases ha : ((d.drop o).take k).all (· == 0)
    · rw [if_neg Bool.false_ne_true]
      exact short (pad4_ne hge (Nat.lt_of_le_of_ne hx fun h => by rw [hfull.mp h] at ha; cases ha))
    · rw [if_pos rfl, hfull.mpr ha, pad4_of_mod (pad4_mod o),
        if_neg (bne_self_eq_false (pad4 o) ▸ Bool.false_ne_true), List.drop_drop, hk]
      exact .ok (hP _ (Nat.le_add_right o k) (hk ▸ hle))

theorem itemLoop_agrees {bs d : Bytes} {pt : UInt8} {base : Nat} (hs : SubSlice ⟨base, d⟩ bs)
    (fuel off : Nat) (acc : List SdesItem) (ho : off ≤ d.length) (hf : d.length ≤ off + fuel)
    (hacc : ∀ it ∈ acc, ItemOk bs it) :
    Agrees (ErrorTruthful bs pt) (fun p q => p.1.map itemAsRef = acc.map itemAsRef ++ q.1 ∧
        q.2 = d.drop p.2 ∧ off ≤ p.2 ∧ p.2 ≤ d.length ∧ ∀ it ∈ p.1, ItemOk bs it)
      (SdesChunk.itemLoop base d off acc >>= scanFill d) (refItems fuel off (d.drop off)) := by
  induction off using loop_induction d.length generalizing fuel acc with
  | step off ih =>
    rw [itemLoop_eq]
    by_cases hlt : off < d.length
    · obtain ⟨f, rfl⟩ : ∃ f, fuel = f + 1 := ⟨fuel - 1, by omega⟩
      have hd := List.drop_eq_getElem_cons hlt
      rw [if_pos hlt, List.head?_drop, List.getElem?_eq_getElem hlt]
      by_cases hz : d[off] = 0
      · rw [if_pos (congrArg some hz), hd, hz, refItems_zero, R.ok_bind]
        exact scanFill_agrees d acc (off + 1) hlt fun x h1 h2 =>
          ⟨(List.append_nil _).symm, rfl, Nat.le_of_succ_le h1, h2, hacc⟩
      · rw [if_neg (fun h => hz (Option.some.inj h)), refItems_item f off hd hz, R.bind_assoc]
        -- the relation asked of the item step is the claim about the rest of the loop
        refine (item_agrees (base + off) _ fun t l v tail h => ?_).bind fun _ _ h => h
        obtain ⟨hoe, hok⟩ := itemOk_head hs h
        rw [h.len, Nat.add_comm 2, List.drop_drop]
        refine (ih _ hlt (Nat.lt_add_of_pos_right (Nat.succ_pos _)) f (acc ++ [_]) hoe (by omega)
          (List.forall_mem_append.mpr ⟨hacc, List.forall_mem_singleton.mpr hok⟩)).map _ ?_
        rintro p q ⟨g1, g2, g3, g4, g5⟩
        exact ⟨by rw [g1, List.map_append, List.append_assoc]; rfl, g2,
          Nat.le_trans (Nat.le_add_right _ _) g3, g4, g5⟩
    · obtain rfl : off = d.length := Nat.le_antisymm ho (Nat.le_of_not_lt hlt)
      rw [if_neg hlt, R.ok_bind, List.drop_length, refItems_nil]
      exact List.drop_length (l := d) ▸ scanFill_agrees d acc d.length ho fun x h1 h2 =>
        ⟨(List.append_nil _).symm, rfl, h1, h2, hacc⟩

/-- `SdesChunk.parse` is the item loop from offset 4 and then `scanFill` (the guard `length > 4` is
    redundant: at length 4 the loop and the skipper return at once) -/
theorem chunk_parse_eq (base : Nat) {s : Bytes} {a b c d : UInt8} {rest : Bytes}
    (hs : s = a :: b :: c :: d :: rest) :
    SdesChunk.parse base s = SdesChunk.itemLoop base s 4 [] >>= scanFill s >>= fun p =>
      .ok (⟨(a.toNat * 16777216 + b.toNat * 65536 + c.toNat * 256 + d.toNat).toUInt32, p.1⟩, p.2) := by
  have h4 : 4 ≤ s.length := hs ▸ Nat.le_add_left 4 rest.length
  rw [SdesChunk.parse, if_neg (Nat.not_lt.mpr h4), slice_ok s 0 4 ⟨Nat.zero_le 4, h4⟩, R.ok_bind,
    show range s 0 4 = [a, b, c, d] from hs ▸ rfl, fromBe32, R.ok_bind]
  by_cases h : s.length > 4
  · rw [if_pos h]
    cases SdesChunk.itemLoop base s 4 [] with
    | ok p => simp only [R.ok_bind, R.pure_eq, scanFill]; split <;> rfl
    | err e | panic => rfl
  · have hfin : scanFill s ([], 4) = .ok ([], 4) := by
      unfold scanFill
      rw [skipZeros_of_le s (Nat.le_trans (Nat.min_le_right _ _) (Nat.le_of_not_lt h))]
      rfl
    rw [if_neg h, itemLoop_eq, if_neg h, R.ok_bind, hfin]
    rfl

theorem chunkLoop_agrees {pt : UInt8} (d : Bytes) (ce : Nat) (hce : ce ≤ d.length) (fuel off : Nat)
    (acc : List SdesChunk) (ho : off ≤ ce) (hf : ce ≤ off + fuel)
    (hacc : ∀ c ∈ acc, ∀ it ∈ c.items, ItemOk d it) :
    Agrees (ErrorTruthful d pt) (fun cs' cs => cs'.map chunkAsRef = acc.map chunkAsRef ++ cs ∧
        ∀ c ∈ cs', ∀ it ∈ c.items, ItemOk d it)
      (Sdes.chunkLoop d ce off acc) (refChunks fuel (range d off ce)) := by
  induction off using loop_induction ce generalizing fuel acc with
  | step off ih =>
    have hlen := range_length d off ce hce
    rw [chunkLoop_eq]
    by_cases hlt : off < ce
    · obtain ⟨f, rfl⟩ : ∃ f, fuel = f + 1 := ⟨fuel - 1, by omega⟩
      rw [if_pos hlt, slice_ok d off ce ⟨ho, hce⟩, R.ok_bind]
      have hsub := subSlice_range d ho hce
      generalize hs : range d off ce = s at hlen hsub
      obtain _ | ⟨a, _ | ⟨b, _ | ⟨c, _ | ⟨e, rest⟩⟩⟩⟩ := s
      · exact absurd hlen (by rw [List.length_nil]; omega)
      · exact .err (show 1 < 4 by decide)
      · exact .err (show 2 < 4 by decide)
      · exact .err (show 3 < 4 by decide)
      · rw [chunk_parse_eq off rfl, refChunks_cons4, R.bind_assoc (_ >>= scanFill _)]
        refine (itemLoop_agrees hsub rest.length 4 [] (Nat.le_add_left 4 _)
          (Nat.le_of_eq (Nat.add_comm rest.length 4)) nofun :
            Agrees _ _ _ (refItems rest.length 4 rest)).bind ?_
        rintro p q ⟨h1, h2, h3, h4, h5⟩
        rw [R.ok_bind, h2, ← hs, drop_range]
        rw [hlen] at h4
        refine (ih (off + p.2) hlt (Nat.lt_add_of_pos_right (Nat.lt_of_lt_of_le (by decide) h3))
          f (acc ++ [⟨_, p.1⟩]) (Nat.add_le_of_le_sub' ho h4) (by omega) ?_).map _ ?_
        · exact List.forall_mem_append.mpr ⟨hacc, List.forall_mem_singleton.mpr h5⟩
        · rintro cs' cs ⟨g1, g2⟩
          exact ⟨by rw [g1, List.map_append, List.append_assoc, List.map_singleton, chunkAsRef, h1]; rfl,
            g2⟩
    · rw [if_neg hlt, List.eq_nil_of_length_eq_zero
        (hlen.trans (Nat.sub_eq_zero_of_le (Nat.le_of_not_lt hlt))), refChunks]
      exact .ok ⟨(List.append_nil _).symm, hacc⟩

end Rtcp.Proofs.SdesAux
