/-
  Parsing arbitrary FCI bytes (C15): the FCI parsers (`Fir`/`Sli`/`Rpsi`/`Pli.parse`) as `Outcome`s with
  one error predicate, the RPSI accessors in the reference vocabulary, and `parse_fci` in closed form.
-/
import Rtcp.Spec.All
import Rtcp.Proofs.FciIter
import Rtcp.Proofs.ReadLemmas
import Rtcp.Proofs.ParsersFraming

namespace Rtcp.Proofs
open Rtcp Rtcp.Impl Rtcp.Spec

/-- what an FCI parser's error says about the FCI `d` (C18) -/
def FciErr (d : Bytes) (e : ParseError) : Prop :=
  (∃ ex, e = .truncated ex d.length ∧ d.length < ex) ∨ (e = .tooLarge 0 d.length ∧ 0 < d.length)

theorem FciErr.truncated {d : Bytes} {ex : Nat} (h : d.length < ex) : FciErr d (.truncated ex d.length) :=
  .inl ⟨ex, rfl, h⟩

theorem FciErr.tooLarge {d : Bytes} (h : 0 < d.length) : FciErr d (.tooLarge 0 d.length) := .inr ⟨rfl, h⟩

theorem fir_outcome (d : Bytes) : Outcome (Fir.parse d) d (8 ≤ d.length) (FciErr d) :=
  .guard_lt .truncated id .ok

theorem sli_outcome (d : Bytes) : Outcome (Sli.parse d) d (4 ≤ d.length) (FciErr d) :=
  .guard_lt .truncated id .ok

theorem pli_outcome : ∀ d : Bytes, Outcome (Pli.parse d) d (d = []) (FciErr d)
  | [] => .ok rfl
  | _ :: _ => .err (.tooLarge (Nat.succ_pos _)) nofun

theorem rpsi_parse_eq (d : Bytes) :
    Rpsi.parse d =
      if d.length < 4 then .err (.truncated 4 d.length)
      else if u8At d 0 / 8 > d.length - 2 then .err (.truncated (u8At d 0 / 8 + 2) d.length)
      else .ok d := by
  unfold Rpsi.parse Rpsi.paddingBytes
  split
  · rfl
  · rw [Read.idx_ok d 0 (by omega)]; rfl

theorem rpsi_outcome (d : Bytes) :
    Outcome (Rpsi.parse d) d (4 ≤ d.length ∧ u8At d 0 / 8 + 2 ≤ d.length) (FciErr d) := by
  rw [rpsi_parse_eq]
  generalize u8At d 0 / 8 = pb
  exact .guard_lt .truncated (fun q => q.1) fun h4 =>
    .guard_lt (fun h => .truncated (by omega)) (fun q => by omega) fun h => .ok ⟨h4, by omega⟩

theorem fci_outcome : ∀ (f : Fb.FciType) (d : Bytes), ∃ P, Outcome (f.parse d) d P (FciErr d)
  | .nack, _ => ⟨True, .ok trivial⟩
  | .fir, d => ⟨_, fir_outcome d⟩
  | .sli, d => ⟨_, sli_outcome d⟩
  | .rpsi, d => ⟨_, rpsi_outcome d⟩
  | .pli, d => ⟨_, pli_outcome d⟩

theorem fci_parsers_no_panic (f : Fb.FciType) (d : Bytes) : f.parse d ≠ .panic :=
  have ⟨_, h⟩ := fci_outcome f d; h.no_panic

theorem rpsiDecode_of_two_le : ∀ d : Bytes, 2 ≤ d.length →
    rpsiDecode d = some (u8At d 1 % 128, (bitsOf (d.drop 2)).take (8 * (d.drop 2).length - u8At d 0))
  | _ :: _ :: _, _ => rfl

theorem rpsi_payloadType {ε : Type} (d : Bytes) (h : 2 ≤ d.length) :
    (Rpsi.payloadType d : R ε UInt8) = .ok (u8At d 1 % 128).toUInt8 := by
  rw [Rpsi.payloadType, Read.idx_ok d 1 h]; rfl

/-- the bit string is the FCI without its two leading octets and its `PB / 8` whole octets of padding;
    `PB % 8` bits of its last octet are padding too -/
theorem rpsi_bitString {ε : Type} (base : Nat) (d : Bytes) (h : u8At d 0 / 8 + 2 ≤ d.length) :
    (Rpsi.bitString base d : R ε (Slice × Nat)) =
      .ok (⟨base + 2, range d 2 (d.length - u8At d 0 / 8)⟩, u8At d 0 % 8) := by
  unfold u8At at h ⊢
  rw [Rpsi.bitString, Rpsi.paddingBytes, Read.idx_ok d 0 (Nat.lt_of_lt_of_le (Nat.succ_pos _) h)]
  simp only [R.ok_bind, R.pure_eq]
  rw [Read.usub_ok _ _ (Nat.div_mul_le_self _ 8), Read.usub_ok _ _ (Nat.le_of_add_right_le h), R.ok_bind,
    R.ok_bind, Read.sliceS_ok base d 2 _ ⟨Nat.le_sub_of_add_le' h, Nat.sub_le _ _⟩, R.ok_bind,
    ← Nat.mod_eq_sub_div_mul]

theorem rpsi_decode_eq {ε : Type} (d : Bytes) (h : Rpsi.parse d = .ok d) :
    ∃ pt bits s k, rpsiDecode d = some (pt, bits) ∧
      (Rpsi.payloadType d : R ε UInt8) = .ok pt.toUInt8 ∧
      (Rpsi.bitString 0 d : R ε (Slice × Nat)) = .ok (s, k) ∧
      (bitsOf s.bytes).take (8 * s.bytes.length - k) = bits ∧ SubSlice s d := by
  obtain ⟨h4, hpb⟩ := (rpsi_outcome d).accepts.mp h
  refine ⟨_, _, _, _, rpsiDecode_of_two_le d (by omega), rpsi_payloadType d (by omega), rpsi_bitString 0 d hpb, ?_,
    Read.subSlice_range d (Nat.le_sub_of_add_le' hpb) (Nat.sub_le _ _)⟩
  -- the slice `[2, length - PB / 8)` of the FCI is what follows its two leading octets, cut at the end
  have hr : range d 2 (d.length - u8At d 0 / 8) = (d.drop 2).take ((d.drop 2).length - u8At d 0 / 8) := by
    rw [range, List.drop_take, List.length_drop, Nat.sub_right_comm]
  rw [hr, List.length_take_of_le (Nat.sub_le _ _), bitsOf_take_take, Nat.div_add_mod]

/-- the two feedback kinds against the five FCI types: only generic NACK is transport-layer feedback -/
theorem fciType_kind (f : Fb.FciType) (k : FbKind) :
    (FbType.and f.packetType k.ty == FbType.none) = true ↔ ¬ (f = .nack ↔ k = .transport) := by
  cases f <;> cases k <;> decide

theorem parseFci_eq (k : FbKind) (f : Fb.FciType) (d : Bytes) (h : Fb.parse k d = .ok d) :
    Fb.parseFci k f d =
      (if (f = .nack ↔ k = .transport) ∧ count d = f.format.toNat
       then f.parse (range d 12 (d.length - padLen d))
       else .err .wrongImplementation) := by
  obtain ⟨-, h4, hlf, hpad⟩ := (fb_outcome k d).framed h
  have hc : ((count d).toUInt8 != f.format) = true ↔ ¬ count d = f.format.toNat := by
    rw [bne_iff_ne, Ne, ← UInt8.toNat_inj, Read.count_toUInt8_toNat]
  -- every read succeeds on an accepted packet; what is left is the two gates
  rw [Fb.parseFci, Read.parseCount_ok d (by omega), R.ok_bind, Read.parsePadding_ok d h4 hlf, R.ok_bind]
  show (if _ then _ else if _ then _ else usub d.length (padLen d) >>= fun e => slice d 12 e >>= f.parse) = _
  rw [Read.usub_ok _ _ (Nat.le_of_add_left_le hpad), R.ok_bind,
    Read.slice_ok _ _ _ ⟨Nat.le_sub_of_add_le hpad, Nat.sub_le _ _⟩, R.ok_bind]
  simp only [fciType_kind, hc, ite_not]
  by_cases hk : (f = .nack ↔ k = .transport) <;> simp only [hk, if_true, if_false, true_and, false_and]

end Rtcp.Proofs
