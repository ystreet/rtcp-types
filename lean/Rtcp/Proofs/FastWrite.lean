import Rtcp.Impl.FastWrite
import Rtcp.Props.WriterContract
import Rtcp.Proofs.WritersSdes
import Rtcp.Proofs.Calls

namespace Rtcp.Proofs
open Rtcp Rtcp.Impl Rtcp.Spec Rtcp.Props

theorem fast_writerVia_eq {w : Writer} {img : Bytes} (hw : Refines w img) : Fast.writerVia w img = w := by
  unfold Fast.writerVia
  cases w with
  | mk calcSize write getPadding =>
    simp only [Writer.mk.injEq, true_and, and_true]
    funext buf
    cases hs : calcSize with
    | ok n =>
      simp only
      split
      · rename_i hl
        exact ((hw.exact n hs).2 buf hl).symm
      · rfl
    | err e | panic => rfl

theorem fast_sdesWriter_eq (b : SdesBuilder) : Fast.sdesWriter b = b.toWriter :=
  fast_writerVia_eq (sdes_refines b)

theorem fast_chunkWriter_eq (b : SdesChunkBuilder) :
    Fast.chunkWriter b = ⟨b.calcSize, b.writeUnchecked, none⟩ := fast_writerVia_eq (chunk_refines b)

theorem fast_chunkRun_eq (b : SdesChunkBuilder) (cs : List ChunkCall) : Fast.chunkRun b cs = b.run cs :=
  (chunk_run b cs).symm

end Rtcp.Proofs
