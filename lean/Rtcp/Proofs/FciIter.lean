/-
  The entry iterators of FIR, SLI and generic NACK: `next` on a complete word and at the end of the
  data; by induction along `words64` / `words32` each yields one decoded entry per complete word
  (`Yields`).  NACK's `next`, read bit by bit, walks the mask as `NackWord.decode` filters it.
-/
import Rtcp.Proofs.Iter
import Rtcp.Proofs.ReadLemmas
import Rtcp.Proofs.FciRef

namespace Rtcp.Proofs
open Rtcp Rtcp.Impl Rtcp.Spec

/-- what one complete word of `words64` decodes to: the entry the FIR iterator hands out -/
def firEntryOfWord : Bytes × UInt8 → UInt32 × UInt8 := fun (s, q) =>
    ((match s with
     | [a, b, c, e] => a.toNat * 16777216 + b.toNat * 65536 + c.toNat * 256 + e.toNat
     | _ => 0).toUInt32, q)

theorem fir_next_word {ε : Type} {d : Bytes} {i : Nat} {a b c e f g h k : UInt8} {rest : Bytes}
    (hr : d.drop (i * 8) = a :: b :: c :: e :: f :: g :: h :: k :: rest) :
    (Fir.next d i : R ε _) = .ok (some (firEntryOfWord ([a, b, c, e], f)), i + 1) := by
  have hl := congrArg List.length hr
  simp only [List.length_drop, List.length_cons] at hl
  rw [Fir.next, if_neg (by omega), Read.sliceFrom_ok (by omega), R.ok_bind, hr]
  rfl

theorem fir_next_end {ε : Type} {d : Bytes} {i : Nat} (h : (d.drop (i * 8)).length < 8) :
    (Fir.next d i : R ε _) = .ok (none, i) := by
  rw [List.length_drop] at h
  exact if_pos (by omega)

theorem fir_yields {ε : Type} (d rest : Bytes) : ∀ i, d.drop (i * 8) = rest →
    ∃ i', Yields (Fir.next (ε := ε) d) i ((words64 rest).map firEntryOfWord) i' := by
  fun_induction words64 rest with
  | case1 a b c e f g h k rest ih =>
    intro i hr
    obtain ⟨i', hy⟩ := ih (i + 1) (by rw [Nat.add_mul, ← List.drop_drop, hr]; rfl)
    exact ⟨i', .cons (fir_next_word hr) hy⟩
  | case2 l hl =>
    intro i hr
    exact ⟨i, .nil (fir_next_end (hr ▸ lt8_of_no_word hl))⟩

theorem fir_entries_ok {ε : Type} (d : Bytes) : (Fir.entries d : R ε _) = .ok ((words64 d).map firEntryOfWord, true) := by
  obtain ⟨i', h⟩ := fir_yields (ε := ε) d d 0 rfl
  have := words64_length_le d
  exact collect_of_yields (fin := fun acc _ => (acc, true)) (fun _ _ _ _ _ h => by simp only [Fir.collect, h])
    (fun _ _ _ _ h => by simp only [Fir.collect, h]) h _ [] (by rw [List.length_map]; omega)

theorem firDecode_map (d : Bytes) :
    (firDecode d).map (fun p => (p.1.toUInt32, p.2.toUInt8)) = (words64 d).map firEntryOfWord := by
  rw [firDecode, List.map_map]
  exact List.map_congr_left fun ⟨s, q⟩ _ => Prod.ext rfl (Read.toNat_toUInt8 q)

def sliEntryOfWord : UInt8 × UInt8 × UInt8 × UInt8 → MacroBlockEntry := fun (a, b, c, e) => MacroBlockEntry.decode a b c e

theorem sli_next_word {ε : Type} {d : Bytes} {i : Nat} {a b c e : UInt8} {rest : Bytes}
    (hr : d.drop i = a :: b :: c :: e :: rest) :
    (Sli.next d i : R ε _) = .ok (some (MacroBlockEntry.decode a b c e), i + 4) := by
  have hl : ¬ i + 3 ≥ d.length := Nat.not_le.mpr (Read.drop_cons4 hr).1
  have h0 : (idx d i : R ε UInt8) = idx (d.drop i) 0 := Read.idx_drop d i 0
  simp only [Sli.next, hl, if_false, Read.idx_drop, h0, hr]
  rfl

theorem sli_next_end {ε : Type} {d : Bytes} {i : Nat} (h : (d.drop i).length < 4) :
    (Sli.next d i : R ε _) = .ok (none, i) := by
  rw [List.length_drop] at h
  exact if_pos (by omega)

theorem sli_yields {ε : Type} (d rest : Bytes) : ∀ i, d.drop i = rest →
    ∃ i', Yields (Sli.next (ε := ε) d) i ((words32 rest).map sliEntryOfWord) i' := by
  fun_induction words32 rest with
  | case1 a b c e rest ih =>
    intro i hr
    obtain ⟨i', h⟩ := ih (i + 4) (by rw [← List.drop_drop, hr]; rfl)
    exact ⟨i', .cons (sli_next_word hr) h⟩
  | case2 l hl =>
    intro i hr
    exact ⟨i, .nil (sli_next_end (hr ▸ lt4_of_no_word hl))⟩

theorem sli_entries_ok {ε : Type} (d : Bytes) :
    (Sli.lostMacroblocks d : R ε _) = .ok ((words32 d).map sliEntryOfWord, true) := by
  obtain ⟨i', h⟩ := sli_yields (ε := ε) d d 0 rfl
  have := words32_length_le d
  exact collect_of_yields (fin := fun acc _ => (acc, true)) (fun _ _ _ _ _ h => by simp only [Sli.collect, h])
    (fun _ _ _ _ h => by simp only [Sli.collect, h]) h _ [] (by rw [List.length_map]; omega)

theorem sliDecode_map (d : Bytes) :
    (sliDecode d).map (fun t => (⟨t.1.toUInt16, t.2.1.toUInt16, t.2.2.toUInt8⟩ : MacroBlockEntry))
      = (words32 d).map sliEntryOfWord := by
  rw [sliDecode, List.map_map]
  exact List.map_congr_left fun ⟨a, b, c, e⟩ _ => (sli_decode_fields a b c e rfl).symm

theorem nack_next_end {ε : Type} {d : Bytes} {i : Nat} (h : (d.drop (i * 4)).length < 4) :
    (Nack.next d (i, 0) : R ε _) = .ok (none, (i, 0)) := by
  rw [List.length_drop] at h
  exact if_pos (by omega)

theorem nack_next_wrap {ε : Type} (d : Bytes) (i m : Nat) (hm : m > 16) :
    (Nack.next d (i, m) : R ε _) = Nack.next d (i + 1, 0) := by
  rw [Nack.next, Nack.next, if_pos hm, if_neg (Nat.not_lt_zero 16)]

theorem slice_cons4 {ε : Type} (a b c e : UInt8) (rest : Bytes) :
    (slice (a :: b :: c :: e :: rest) 0 2 : R ε Bytes) = .ok [a, b] ∧
    (slice (a :: b :: c :: e :: rest) 2 4 : R ε Bytes) = .ok [c, e] := ⟨rfl, rfl⟩

theorem be16_lt (a b : UInt8) : a.toNat * 256 + b.toNat < 65536 := Read.u16At_lt [a, b] 0

/-- `next` in a state whose word `a b c e` is complete.  Where the mask is exhausted the model spells out
    the start of the following word; that copy is `next` itself at `(i + 1, 0)`, by unfolding (the closing
    `rfl`).  Past position 16 both sides are `next` at `(i + 1, 0)`. -/
theorem nack_next_word {ε : Type} {d : Bytes} {i : Nat} {a b c e : UInt8} {rest : Bytes}
    (hr : d.drop (i * 4) = a :: b :: c :: e :: rest) (m : Nat) :
    (Nack.next d (i, m) : R ε _) =
      if m = 0 then .ok (some (a.toNat * 256 + b.toNat).toUInt16, (i, 1))
      else match Nack.findBit (c.toNat * 256 + e.toNat) m with
        | some j => .ok (some ((a.toNat * 256 + b.toNat + j) % 65536).toUInt16, (i, j + 1))
        | none => Nack.next d (i + 1, 0) := by
  by_cases hm : m > 16
  · rw [nack_next_wrap d i m hm, if_neg (Nat.ne_of_gt (Nat.zero_lt_of_lt hm)), Nack.findBit, if_pos hm]
  have h3 : i * 4 + 3 < d.length := (Read.drop_cons4 hr).1
  rw [Nack.next, if_neg hm]
  dsimp only
  rw [if_neg (Nat.not_le.mpr h3), Read.sliceFrom_ok (by omega), R.ok_bind, hr]
  simp only [slice_cons4, R.ok_bind, fromBe16, beq_iff_eq, toUInt16_toNat_lt _ (be16_lt _ _)]
  rfl

/-- inside a word: mask position `k + 1` yields the entry of bit `k` if that bit is set, and moves on
    (`findBit` unfolded once) -/
theorem nack_next_bit {ε : Type} {d : Bytes} {i : Nat} {a b c e : UInt8} {rest : Bytes}
    (hr : d.drop (i * 4) = a :: b :: c :: e :: rest) (k : Nat) (hk : k < 16) :
    (Nack.next d (i, k + 1) : R ε _) =
      if (c.toNat * 256 + e.toNat).testBit k
      then .ok (some ((a.toNat * 256 + b.toNat + k + 1) % 65536).toUInt16, (i, k + 2))
      else Nack.next d (i, k + 2) := by
  rw [nack_next_word hr (k + 1), if_neg (Nat.succ_ne_zero k), Nack.findBit, if_neg (Nat.not_lt.mpr hk),
    Nat.add_sub_cancel, nack_next_word hr (k + 2), if_neg (Nat.succ_ne_zero _), Nat.add_assoc _ k 1]
  cases (c.toNat * 256 + e.toNat).testBit k <;> rfl

/-- the entries of word `i` from bit `k` on, then whatever the following words yield -/
theorem nack_word_yields {ε : Type} {d : Bytes} {i : Nat} {a b c e : UInt8} {rest : Bytes}
    (hr : d.drop (i * 4) = a :: b :: c :: e :: rest) {tl : List UInt16} {s' : Nack.St}
    (htl : Yields (Nack.next (ε := ε) d) (i + 1, 0) tl s') (n : Nat) : ∀ k, k + n = 16 →
    Yields (Nack.next (ε := ε) d) (i, k + 1)
      ((((List.range' k n).filter fun k => (c.toNat * 256 + e.toNat).testBit k).map
        fun k => ((a.toNat * 256 + b.toNat + k + 1) % 65536).toUInt16) ++ tl) s' := by
  induction n with
  | zero => exact fun k hk => .of_next_eq (nack_next_wrap d i _ (by omega)) htl
  | succ n ih =>
    intro k hk
    have hn := nack_next_bit (ε := ε) hr k (by omega)
    have ih := ih (k + 1) (by omega)
    rw [List.range'_succ, List.filter_cons]
    split
    · next hb => exact .cons (hn.trans (if_pos hb)) ih
    · next hb => exact .of_next_eq (hn.trans (if_neg hb)) ih

theorem nack_yields {ε : Type} (d rest : Bytes) : ∀ i, d.drop (i * 4) = rest →
    ∃ s', Yields (Nack.next (ε := ε) d) (i, 0) ((nackDecode rest).map Nat.toUInt16) s' := by
  fun_induction words32 rest with
  | case1 a b c e rest ih =>
    intro i hr
    obtain ⟨s', hy⟩ := ih (i + 1) (by rw [Nat.add_mul, ← List.drop_drop, hr]; rfl)
    rw [nackDecode_cons4, NackWord.decode, List.range_eq_range', List.cons_append, List.map_cons, List.map_append,
      List.map_map]
    exact ⟨s', .cons ((nack_next_word hr 0).trans (if_pos rfl)) (nack_word_yields hr hy 16 0 rfl)⟩
  | case2 l hl =>
    intro i hr
    have h4 := lt4_of_no_word hl
    rw [nackDecode, words32_short h4]
    exact ⟨_, .nil (nack_next_end (hr ▸ h4))⟩

theorem nack_entries_ok {ε : Type} (d : Bytes) :
    (Nack.entries d : R ε _) = .ok ((nackDecode d).map Nat.toUInt16, true) := by
  obtain ⟨s', h⟩ := nack_yields (ε := ε) d d 0 rfl
  have := nackDecode_length_le d
  exact collect_of_yields (fin := fun acc _ => (acc, true)) (fun _ _ _ _ _ h => by simp only [Nack.collect, h])
    (fun _ _ _ _ h => by simp only [Nack.collect, h]) h _ [] (by rw [List.length_map]; omega)

end Rtcp.Proofs
