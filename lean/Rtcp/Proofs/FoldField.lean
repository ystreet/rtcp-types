/-
  How one field of a record evolves under a fold of calls.  A run `cs.foldl ap b` is analysed one
  projection `f` at a time: `f` commutes with the fold (`List.foldl_hom`), so what the field ends up as
  depends only on what ONE call does to it.  Three behaviours occur in the builders: no call touches
  the field, some calls overwrite it (`lastSome`, itself a fold: its equations come first), some calls
  append to it (`filterMap`).
-/
import Rtcp.Spec.Calls

namespace Rtcp.Proofs
open Rtcp.Spec

theorem lastSome_cons {κ α : Type} (f : κ → Option α) (c : κ) (cs : List κ) (d : α) :
    lastSome f (c :: cs) d = lastSome f cs (match f c with | some v => v | none => d) := rfl

theorem lastSome_nil {κ α : Type} (f : κ → Option α) (d : α) : lastSome f [] d = d := rfl

theorem lastSome_append {κ α : Type} (f : κ → Option α) (as bs : List κ) (d : α) :
    lastSome f (as ++ bs) d = lastSome f bs (lastSome f as d) := List.foldl_append

variable {β κ α : Type} {ap : β → κ → β} {f : β → α}

theorem foldl_kept (h : ∀ b c, f (ap b c) = f b) (cs : List κ) (b : β) : f (cs.foldl ap b) = f b := by
  induction cs generalizing b with
  | nil => rfl
  | cons c cs ih => rw [List.foldl_cons, ih, h]

/-- `lastSome` is a fold by definition, so this is `List.foldl_hom` read from right to left. -/
theorem foldl_set {sel : κ → Option α} (h : ∀ b c, f (ap b c) = lastSome sel [c] (f b))
    (cs : List κ) (b : β) : f (cs.foldl ap b) = lastSome sel cs (f b) :=
  (List.foldl_hom f fun b c => (h b c).symm).symm

theorem foldl_added {f : β → List α} {sel : κ → Option α}
    (h : ∀ b c, f (ap b c) = match sel c with | some x => f b ++ [x] | none => f b)
    (cs : List κ) (b : β) : f (cs.foldl ap b) = f b ++ cs.filterMap sel := by
  induction cs generalizing b with
  | nil => simp
  | cons c cs ih =>
    rw [List.foldl_cons, ih, h, List.filterMap_cons]
    cases sel c <;> simp

/-- every call appends: the case `sel c = some (g c)` of `foldl_added` -/
theorem foldl_pushed {f : β → List α} {g : κ → α} (h : ∀ b c, f (ap b c) = f b ++ [g c])
    (cs : List κ) (b : β) : f (cs.foldl ap b) = f b ++ cs.map g :=
  List.filterMap_eq_map' ▸ foldl_added (sel := fun c => some (g c)) h cs b

theorem foldl_appended {ap : β → α → β} {f : β → List α} (h : ∀ b c, f (ap b c) = f b ++ [c])
    (cs : List α) (b : β) : f (cs.foldl ap b) = f b ++ cs :=
  (foldl_pushed (g := id) h cs b).trans (congrArg _ cs.map_id)

theorem foldl_move_last {c : κ} {post : List κ}
    (h : ∀ c' ∈ post, ∀ b, ap (ap b c) c' = ap (ap b c') c) (pre : List κ) (b : β) :
    (pre ++ c :: post).foldl ap b = (pre ++ post ++ [c]).foldl ap b := by
  rw [List.append_assoc, List.foldl_append, List.foldl_append]
  generalize pre.foldl ap b = b
  induction post generalizing b with
  | nil => rfl
  | cons c' post ih =>
    rw [List.foldl_cons, List.foldl_cons, h c' List.mem_cons_self]
    exact ih (fun c'' hc => h c'' (List.mem_cons_of_mem _ hc)) _

end Rtcp.Proofs
