/-
  From a successful `write_into` back to the configuration: whenever `write_into` returns `Ok(n)`,
  `n` is the announced size, the buffer was long enough, and the first `n` bytes are the image; hence
  the round-trip theorems can be stated about the bytes a caller actually holds.
-/
import Rtcp.Props.WriterContract
import Rtcp.Props.Writers
import Rtcp.Proofs.RoundTrip
import Rtcp.Proofs.CompoundE2E
import Rtcp.Proofs.SdesEncode

namespace Rtcp.Proofs
open Rtcp Rtcp.Impl Rtcp.Spec Rtcp.Props

theorem writeInto_ok_inv {w : Writer} {img : Bytes} (hw : Refines w img) (buf : Bytes) (n : Nat)
    (h : (w.writeInto buf).2 = .ok n) :
    w.calcSize = .ok n ∧ n ≤ buf.length ∧ ((w.writeInto buf).1).take n = img ∧
      ((w.writeInto buf).1).drop n = buf.drop n := by
  cases hs : w.calcSize with
  | ok k =>
    by_cases hb : k ≤ buf.length
    · rw [Props.writeInto_ok hw hs buf hb] at h
      cases h
      exact ⟨rfl, hb, Props.written_eq_image hw hs buf hb, Props.tail_untouched hw hs buf hb⟩
    · rw [Props.writeInto_short hs buf (Nat.lt_of_not_le hb)] at h
      cases h
  | err e =>
    rw [Props.writeInto_err hs] at h
    cases h
  | panic => exact absurd hs hw.noPanic

theorem member_written (m : Member) (hinv : m.Inv) (buf : Bytes) (n : Nat)
    (h : (m.toWriter.writeInto buf).2 = .ok n) :
    ((m.toWriter.writeInto buf).1).take n = m.image ∧ ((m.toWriter.writeInto buf).1).drop n = buf.drop n ∧
    m.toWriter.calcSize = .ok n ∧ Tile m.image ∧ ∃ p, Packet.parse m.image = .ok p ∧ p.kind? = some m.kind := by
  obtain ⟨hs, _, himg, htail⟩ := writeInto_ok_inv (member_refines m hinv) buf n h
  exact ⟨himg, htail, hs, member_accepted m hinv n hs⟩

theorem sr_written {ε : Type} (b : SrBuilder) (buf : Bytes) (n : Nat) (h : (b.toWriter.writeInto buf).2 = .ok n) :
    ((b.toWriter.writeInto buf).1).take n = srImage b ∧ Sr.parse (srImage b) = .ok (srImage b) ∧
    (Sr.ssrc (srImage b) : R ε UInt32) = .ok b.ssrc ∧ (Sr.ntp (srImage b) : R ε UInt64) = .ok b.ntp ∧
    (Sr.rtp (srImage b) : R ε UInt32) = .ok b.rtp ∧
    (Sr.packetCount (srImage b) : R ε UInt32) = .ok b.packetCount ∧
    (Sr.octetCount (srImage b) : R ε UInt32) = .ok b.octetCount ∧
    (Sr.padding (srImage b) : R ε (Option UInt8)) = .ok (getPaddingOf b.padding) ∧
    (Sr.nReports (srImage b) : R ε UInt8) = .ok b.reportBlocks.length.toUInt8 ∧
    (Sr.reportBlocks (srImage b) : R ε (List Bytes)) = .ok (b.reportBlocks.map rbImage) := by
  obtain ⟨hs, _, himg, _⟩ := writeInto_ok_inv (Props.sr_refines b) buf n h
  exact ⟨himg, sr_roundtrip b (FirstErr.nil_of_ok (sr_calcSize b) hs)⟩

theorem rr_written {ε : Type} (b : RrBuilder) (buf : Bytes) (n : Nat) (h : (b.toWriter.writeInto buf).2 = .ok n) :
    ((b.toWriter.writeInto buf).1).take n = rrImage b ∧ Rr.parse (rrImage b) = .ok (rrImage b) ∧
    (Rr.ssrc (rrImage b) : R ε UInt32) = .ok b.ssrc ∧
    (Rr.padding (rrImage b) : R ε (Option UInt8)) = .ok (getPaddingOf b.padding) ∧
    (Rr.nReports (rrImage b) : R ε UInt8) = .ok b.reportBlocks.length.toUInt8 ∧
    (Rr.reportBlocks (rrImage b) : R ε (List Bytes)) = .ok (b.reportBlocks.map rbImage) := by
  obtain ⟨hs, _, himg, _⟩ := writeInto_ok_inv (Props.rr_refines b) buf n h
  exact ⟨himg, rr_roundtrip b (FirstErr.nil_of_ok (rr_calcSize b) hs)⟩

theorem bye_written {ε : Type} (b : ByeBuilder) (buf : Bytes) (n : Nat) (h : (b.toWriter.writeInto buf).2 = .ok n) :
    ((b.toWriter.writeInto buf).1).take n = byeImage b ∧ Bye.parse (byeImage b) = .ok (byeImage b) ∧
    (Bye.ssrcs (byeImage b) : R ε (List UInt32)) = .ok b.sources ∧
    (Bye.reason (byeImage b) : R ε (Option Slice)) =
      .ok (if b.reason = [] then none else some ⟨4 + 4 * b.sources.length + 1, b.reason⟩) ∧
    (Bye.padding (byeImage b) : R ε (Option UInt8)) = .ok (getPaddingOf b.padding) := by
  obtain ⟨hs, _, himg, _⟩ := writeInto_ok_inv (Props.bye_refines b) buf n h
  exact ⟨himg, bye_roundtrip b (FirstErr.nil_of_ok (bye_calcSize b) hs)⟩

theorem app_written {ε : Type} (b : AppBuilder) (buf : Bytes) (n : Nat) (h : (b.toWriter.writeInto buf).2 = .ok n) :
    ((b.toWriter.writeInto buf).1).take n = appImage b ∧ App.parse (appImage b) = .ok (appImage b) ∧
    (App.ssrc (appImage b) : R ε UInt32) = .ok b.ssrc ∧
    (hCount (appImage b) : R ε UInt8) = .ok b.subtype ∧
    (App.name (appImage b) : R ε Bytes) = .ok (b.name ++ List.replicate (4 - b.name.length) 0) ∧
    (App.data (appImage b) : R ε Slice) = .ok ⟨12, b.data⟩ ∧
    (App.padding (appImage b) : R ε (Option UInt8)) = .ok (getPaddingOf b.padding) := by
  obtain ⟨hs, _, himg, _⟩ := writeInto_ok_inv (Props.app_refines b) buf n h
  exact ⟨himg, app_roundtrip b (FirstErr.nil_of_ok (app_calcSize b) hs)⟩

theorem sdes_written {ε : Type} (b : SdesBuilder) (hz : ∀ c ∈ b.chunks, ∀ it ∈ c.items, it.type ≠ 0)
    (buf : Bytes) (n : Nat) (h : (b.toWriter.writeInto buf).2 = .ok n) :
    ((b.toWriter.writeInto buf).1).take n = sdesImage b ∧
    ∃ v, Sdes.parse (sdesImage b) = .ok v ∧
      v.chunks.map chunkAsRef = b.chunks.map chunkCfgAsRef ∧
      (Sdes.padding v : R ε (Option UInt8)) = .ok (getPaddingOf b.padding) := by
  obtain ⟨hs, _, himg, _⟩ := writeInto_ok_inv (Props.sdes_refines b) buf n h
  exact ⟨himg, sdes_roundtrip b (FirstErr.nil_of_ok (sdes_calcSize b) hs) hz⟩

theorem fb_written {ε : Type} (k : FbKind) (f : FciB) (hf : FciOk f) (p : UInt8) (s m : UInt32)
    (buf : Bytes) (n : Nat) (h : ((FbBuilder.toWriter ⟨k, f.toFci, p, s, m⟩).writeInto buf).2 = .ok n) :
    (((FbBuilder.toWriter ⟨k, f.toFci, p, s, m⟩).writeInto buf).1).take n = fbImage k f p s m ∧
    Fb.parse k (fbImage k f p s m) = .ok (fbImage k f p s m) ∧
    (Fb.senderSsrc (fbImage k f p s m) : R ε UInt32) = .ok s ∧
    (Fb.mediaSsrc (fbImage k f p s m) : R ε UInt32) = .ok m ∧
    (Fb.padding (fbImage k f p s m) : R ε (Option UInt8)) = .ok (getPaddingOf p) ∧
    (hCount (fbImage k f p s m) : R ε UInt8) = .ok (fciFormat f).toUInt8 ∧
    Fb.parseFci k (fciTypeOf f) (fbImage k f p s m) = (fciTypeOf f).parse (fciImage f) := by
  obtain ⟨hs, _, himg, _⟩ := writeInto_ok_inv (Props.fb_refines k f hf p s m) buf n h
  exact ⟨himg, fb_roundtrip k f hf p s m (FirstErr.nil_of_ok (fb_calcSize k f hf p s m) hs)⟩

end Rtcp.Proofs
