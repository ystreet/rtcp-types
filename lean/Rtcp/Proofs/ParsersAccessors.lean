/-
  What every accessor of an accepted fixed-layout view returns, in the reference reads (C09).
-/
import Rtcp.Spec.All
import Rtcp.Proofs.ReadLemmas
import Rtcp.Proofs.ParsersFraming

namespace Rtcp.Proofs.Acc
open Rtcp Rtcp.Impl Rtcp.Spec
open Rtcp.Proofs.Read

/-- `n`: a length the view is known to have, so that each field costs one `by decide` -/
theorem read32 {ε : Type} {bs : Bytes} {n : Nat} (hn : n ≤ bs.length) (a : Nat) (ha : a + 4 ≤ n) :
    ((do fromBe32 (← slice bs a (a + 4))) : R ε UInt32) = .ok (u32At bs a).toUInt32 := by
  have h := Nat.le_trans ha hn
  rw [slice_ok bs a (a + 4) ⟨Nat.le_add_right a 4, h⟩]
  exact fromBe32_range bs a h

theorem take_range (bs : Bytes) (a b k : Nat) (h : a + k ≤ b) :
    (range bs a b).take k = range bs a (a + k) := by
  have := range_range bs a b 0 k h
  simpa [range] using this

theorem chunk_le {a k n i len : Nat} (hi : i < n) (h : a + k * n ≤ len) : a + k * i + k ≤ len :=
  Nat.le_trans (by rw [Nat.add_assoc, ← Nat.mul_succ]; exact Nat.add_le_add_left (Nat.mul_le_mul_left k hi) a) h

theorem chunksExact_range (k : Nat) (hk : 0 < k) (bs : Bytes) : ∀ (n a : Nat), a + k * n ≤ bs.length →
    chunksExact k (range bs a (a + k * n)) =
      (List.range n).map (fun i => range bs (a + k * i) (a + k * i + k))
  | 0, a, h => by
    rw [chunksExact, dif_neg fun hc => Nat.lt_irrefl 0 (Nat.lt_of_lt_of_le hk (by
      rw [range_length _ _ _ h, Nat.add_sub_cancel_left] at hc; exact hc.2))]
    rfl
  | n + 1, a, h => by
    have e := add_mul_succ a k n
    have hlen : k ≤ (range bs a (a + k * (n + 1))).length := by
      rw [range_length _ _ _ h, e, Nat.add_assoc, Nat.add_sub_cancel_left]; exact Nat.le_add_right k _
    rw [chunksExact, dif_pos ⟨hk, hlen⟩, take_range bs a _ k (e ▸ Nat.le_add_right _ _), drop_range, e,
      chunksExact_range k hk bs n (a + k) (e ▸ h), List.range_succ_eq_map, List.map_cons, List.map_map,
      Nat.mul_zero, Nat.add_zero]
    exact congrArg _ (List.map_congr_left fun i _ => by rw [Function.comp, add_mul_succ])

theorem unwrapBlocks_ok {ε : Type} (cs : List Bytes) (h : ∀ c ∈ cs, c.length = 24) :
    (unwrapBlocks cs : R ε (List Bytes)) = .ok cs := by
  induction cs with
  | nil => rfl
  | cons c cs ih =>
    have hc : c.length = 24 := h c (by simp)
    have := ih (fun x hx => h x (by simp [hx]))
    simp [unwrapBlocks, ReportBlock.parse, hc, this]

theorem sliceS_subSlice {ε : Type} (d : Bytes) (a b : Nat) (s : Slice)
    (h : (sliceS 0 d a b : R ε Slice) = .ok s) : SubSlice s d := by
  unfold sliceS at h
  split at h
  · next hc =>
    cases h
    rw [Nat.zero_add]
    exact subSlice_range d hc.1 hc.2
  · cases h

end Rtcp.Proofs.Acc

namespace Rtcp.Proofs
open Rtcp Rtcp.Impl Rtcp.Spec
open Rtcp.Proofs.Read Rtcp.Proofs.Acc

theorem blocks_shape (bs : Bytes) (min : Nat) (h : min + 24 * count bs ≤ bs.length) :
    ((List.range (count bs)).map (fun i => range bs (min + 24 * i) (min + 24 * i + 24))).length ≤ 31 ∧
    ∀ rb ∈ (List.range (count bs)).map (fun i => range bs (min + 24 * i) (min + 24 * i + 24)),
      rb.length = 24 := by
  refine ⟨by rw [List.length_map, List.length_range]; exact Nat.le_of_lt_succ (count_lt bs), fun rb hrb => ?_⟩
  obtain ⟨i, hi, rfl⟩ := List.mem_map.mp hrb
  rw [range_length _ _ _ (chunk_le (List.mem_range.mp hi) h), Nat.add_sub_cancel_left]

/-- `data[a .. a + count * k].chunks_exact(k)`: the `count` items of `k` octets from `a` on -/
theorem counted_ok {ε α : Type} {bs : Bytes} (f : List Bytes → R ε α) {a k : Nat} (hk : 0 < k)
    (h4 : 4 ≤ bs.length) (h : a + k * count bs ≤ bs.length) :
    (do let c ← hCount bs
        let s ← slice bs a (a + c.toNat * k)
        f (chunksExact k s)) = f ((List.range (count bs)).map fun i => range bs (a + k * i) (a + k * i + k)) := by
  rw [hCount_ok bs h4, R.ok_bind, count_toUInt8_toNat, Nat.mul_comm, slice_ok bs a _ ⟨Nat.le_add_right _ _, h⟩,
    R.ok_bind, chunksExact_range k hk bs (count bs) a h]

theorem reportBlocksAt_ok {ε : Type} (min : Nat) (bs : Bytes) (h4 : 4 ≤ bs.length)
    (h : min + 24 * count bs ≤ bs.length) :
    (reportBlocksAt min bs : R ε (List Bytes)) =
      .ok ((List.range (count bs)).map (fun i => range bs (min + 24 * i) (min + 24 * i + 24))) :=
  (counted_ok unwrapBlocks (by decide) h4 h).trans (unwrapBlocks_ok _ (blocks_shape bs min h).2)

theorem parseSsrc_ok {ε : Type} (bs : Bytes) (h : 8 ≤ bs.length) :
    (parseSsrc bs : R ε UInt32) = .ok (u32At bs 4).toUInt32 := read32 h 4 (Nat.le_refl 8)

/-- `&data[k .. data.len() - padding]` of APP, third-party and feedback packets -/
theorem payload_ok {ε : Type} {bs : Bytes} (k : Nat) (h4 : 4 ≤ bs.length) (hl : lengthField bs = bs.length)
    (hk : k + padLen bs ≤ bs.length) :
    ((do let p ← parsePadding bs
         let e ← usub bs.length (p.getD 0).toNat
         sliceS 0 bs k e) : R ε Slice) = .ok ⟨k, range bs k (bs.length - padLen bs)⟩ := by
  rw [parsePadding_ok bs h4 hl, R.ok_bind, ← padLen, usub_ok _ _ (Nat.le_trans (Nat.le_add_left _ _) hk), R.ok_bind,
    sliceS_ok 0 bs k _ ⟨Nat.le_sub_of_add_le hk, Nat.sub_le _ _⟩, Nat.zero_add]

theorem sr_accessors {ε : Type} (bs : Bytes) (h : Sr.parse bs = .ok bs) :
    (Sr.ssrc bs : R ε UInt32) = .ok (u32At bs 4).toUInt32 ∧
    (Sr.ntp bs : R ε UInt64) = .ok (u64At bs 8).toUInt64 ∧
    (Sr.rtp bs : R ε UInt32) = .ok (u32At bs 16).toUInt32 ∧
    (Sr.packetCount bs : R ε UInt32) = .ok (u32At bs 20).toUInt32 ∧
    (Sr.octetCount bs : R ε UInt32) = .ok (u32At bs 24).toUInt32 ∧
    (Sr.nReports bs : R ε UInt8) = .ok (count bs).toUInt8 ∧
    (Sr.padding bs : R ε (Option UInt8)) = .ok (paddingOf bs) ∧
    (Sr.reportBlocks bs : R ε (List Bytes)) =
      .ok ((List.range (count bs)).map (fun i => range bs (28 + 24 * i) (28 + 24 * i + 24))) := by
  obtain ⟨hm, h4, hl, hc⟩ := (sr_outcome bs).framed h
  refine ⟨read32 hm 4 (by decide), ?_, read32 hm 16 (by decide), read32 hm 20 (by decide),
    read32 hm 24 (by decide), hCount_ok bs h4, parsePadding_ok bs h4 hl, reportBlocksAt_ok 28 bs h4 hc⟩
  have h16 : 8 + 8 ≤ bs.length := Nat.le_trans (by decide) hm
  exact (congrArg (· >>= fromBe64) (slice_ok bs 8 16 ⟨by decide, h16⟩)).trans (fromBe64_range bs 8 h16)

theorem rr_accessors {ε : Type} (bs : Bytes) (h : Rr.parse bs = .ok bs) :
    (Rr.ssrc bs : R ε UInt32) = .ok (u32At bs 4).toUInt32 ∧
    (Rr.nReports bs : R ε UInt8) = .ok (count bs).toUInt8 ∧
    (Rr.padding bs : R ε (Option UInt8)) = .ok (paddingOf bs) ∧
    (Rr.reportBlocks bs : R ε (List Bytes)) =
      .ok ((List.range (count bs)).map (fun i => range bs (8 + 24 * i) (8 + 24 * i + 24))) := by
  obtain ⟨hm, h4, hl, hc⟩ := (rr_outcome bs).framed h
  exact ⟨parseSsrc_ok bs hm, hCount_ok bs h4, parsePadding_ok bs h4 hl, reportBlocksAt_ok 8 bs h4 hc⟩

theorem rb_accessors {ε : Type} (bs : Bytes) (h : bs.length = 24) :
    (ReportBlock.ssrc bs : R ε UInt32) = .ok (u32At bs 0).toUInt32 ∧
    (ReportBlock.fractionLost bs : R ε UInt8) = .ok (u8At bs 4).toUInt8 ∧
    (ReportBlock.cumulativeLost bs : R ε UInt32) = .ok (u32At bs 4 % 16777216).toUInt32 ∧
    (ReportBlock.extendedSequenceNumber bs : R ε UInt32) = .ok (u32At bs 8).toUInt32 ∧
    (ReportBlock.interarrivalJitter bs : R ε UInt32) = .ok (u32At bs 12).toUInt32 ∧
    (ReportBlock.lastSenderReportTimestamp bs : R ε UInt32) = .ok (u32At bs 16).toUInt32 ∧
    (ReportBlock.delaySinceLastSenderReportTimestamp bs : R ε UInt32) = .ok (u32At bs 20).toUInt32 := by
  have hm : 24 ≤ bs.length := Nat.le_of_eq h.symm
  refine ⟨read32 hm 0 (by decide), ?_, ?_, read32 hm 8 (by decide), read32 hm 12 (by decide),
    read32 hm 16 (by decide), read32 hm 20 (by decide)⟩
  · rw [ReportBlock.fractionLost, idx_ok bs 4 (Nat.lt_of_lt_of_le (by decide) hm), u8At, toNat_toUInt8]
  · have h8 : 4 + 4 ≤ bs.length := Nat.le_trans (by decide) hm
    rw [ReportBlock.cumulativeLost, slice_ok bs 4 8 ⟨by decide, h8⟩, R.ok_bind, fromBe32_range bs 4 h8, R.ok_bind,
      toUInt32_toNat_lt _ (u32At_lt bs 4)]
    rfl

theorem app_accessors {ε : Type} (bs : Bytes) (h : App.parse bs = .ok bs) :
    (App.ssrc bs : R ε UInt32) = .ok (u32At bs 4).toUInt32 ∧
    (App.name bs : R ε Bytes) = .ok (range bs 8 12) ∧
    (App.padding bs : R ε (Option UInt8)) = .ok (paddingOf bs) ∧
    (App.data bs : R ε Slice) = .ok ⟨12, range bs 12 (bs.length - padLen bs)⟩ ∧
    12 ≤ bs.length - padLen bs := by
  obtain ⟨hm, h4, hl, hc⟩ := (app_outcome bs).framed h
  exact ⟨read32 hm 4 (by decide), slice_ok bs 8 12 ⟨by decide, hm⟩, parsePadding_ok bs h4 hl,
    payload_ok 12 h4 hl hc, Nat.le_sub_of_add_le hc⟩

/-- `if len < sub { None } else if len - sub == 0 { None } else ..`: the two tests are one -/
theorem ite_checked_sub {α : Type} (a b : Nat) (x y : α) :
    (if a < b then x else if a - b = 0 then x else y) = if a ≤ b then x else y := by
  by_cases h : a ≤ b
  · rw [if_pos h, if_pos (Nat.sub_eq_zero_of_le h), ite_self]
  · rw [if_neg h, if_neg fun h' => h (Nat.le_of_lt h'), if_neg fun h' => h (Nat.le_of_sub_eq_zero h')]

theorem bye_accessors {ε : Type} (bs : Bytes) (h : Bye.parse bs = .ok bs) :
    (Bye.ssrcs bs : R ε (List UInt32)) = .ok ((List.range (count bs)).map (fun i => (u32At bs (4 + 4 * i)).toUInt32)) ∧
    (Bye.padding bs : R ε (Option UInt8)) = .ok (paddingOf bs) ∧
    (let off := 4 + 4 * count bs
     (Bye.reason bs : R ε (Option Slice)) =
       .ok (if bs.length ≤ off + 1 + padLen bs then none
            else some ⟨off + 1, range bs (off + 1) (off + 1 + u8At bs off)⟩)) ∧
    (4 + 4 * count bs < bs.length → 4 + 4 * count bs + 1 + u8At bs (4 + 4 * count bs) ≤ bs.length) := by
  obtain ⟨-, h4, hl, hc, hr⟩ := (bye_outcome bs).framed h
  refine ⟨?_, parsePadding_ok bs h4 hl, ?_, hr⟩
  · exact (counted_ok (·.mapM fromBe32) (by decide) h4 hc).trans (mapM_map_ok _ _ _ _ fun i hi =>
      fromBe32_range bs (4 + 4 * i) (chunk_le (List.mem_range.mp hi) hc))
  · have hp : ((paddingOf bs).getD 0).toNat = padLen bs := rfl
    simp only [Bye.reason, hCount_ok bs h4, R.ok_bind, count_toUInt8_toNat, (header_ok bs h4).2.2.2, hl,
      parsePadding_ok bs h4 hl, hp, Nat.mul_comm (count bs) 4, Nat.add_comm (4 * count bs) 4, ite_checked_sub]
    split
    · rfl
    · next hlt =>
      have ho : 4 + 4 * count bs < bs.length :=
        Nat.lt_of_le_of_lt (Nat.le_add_right_of_le (Nat.le_add_right _ 1)) (Nat.not_le.mp hlt)
      unfold u8At at hr ⊢
      rw [idx_ok bs _ ho, R.ok_bind, sliceS_ok 0 bs _ _ ⟨Nat.le_add_right _ _, hr ho⟩, Nat.zero_add]
      rfl

/-- `parse_ssrc(&data[4..])` reads `data[8..12]` -/
theorem mediaSsrc_eq {ε : Type} {bs : Bytes} (h : 12 ≤ bs.length) :
    (Fb.mediaSsrc bs : R ε UInt32) = (do fromBe32 (← slice bs 8 12)) := by
  rw [Fb.mediaSsrc, sliceFrom_ok (Nat.le_trans (by decide) h), R.ok_bind, parseSsrc,
    slice_ok _ 4 8 ⟨by decide, by rw [List.length_drop]; exact Nat.le_sub_of_add_le h⟩, slice_ok bs 8 12 ⟨by decide, h⟩,
    range_drop]

theorem fb_accessors {ε : Type} (k : FbKind) (bs : Bytes) (h : Fb.parse k bs = .ok bs) :
    (Fb.senderSsrc bs : R ε UInt32) = .ok (u32At bs 4).toUInt32 ∧
    (Fb.mediaSsrc bs : R ε UInt32) = .ok (u32At bs 8).toUInt32 ∧
    (Fb.padding bs : R ε (Option UInt8)) = .ok (paddingOf bs) := by
  obtain ⟨hm, h4, hl, -⟩ := (fb_outcome k bs).framed h
  exact ⟨read32 hm 4 (by decide), (mediaSsrc_eq hm).trans (read32 hm 8 (by decide)), parsePadding_ok bs h4 hl⟩

theorem custom_accessors {ε : Type} (pt : UInt8) (min : Nat) (h4 : 4 ≤ min) (bs : Bytes)
    (h : Custom.parse pt min bs = .ok bs) :
    (Custom.padding bs : R ε (Option UInt8)) = .ok (paddingOf bs) ∧
    (Custom.body bs : R ε Slice) = .ok ⟨4, range bs 4 (bs.length - padLen bs)⟩ := by
  obtain ⟨-, hl4, hl, hc⟩ := (custom_outcome pt min h4 bs).framed h
  exact ⟨parsePadding_ok bs hl4 hl, payload_ok 4 hl4 hl (Nat.le_trans (Nat.add_le_add_right h4 _) hc)⟩

end Rtcp.Proofs
