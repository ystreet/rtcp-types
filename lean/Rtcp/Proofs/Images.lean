/-
  The reference images of Spec/Wire.lean: how long they are, and that the word list of the NACK
  builder is the reference encoding of its set.
-/
import Rtcp.Spec.Wire
import Rtcp.Proofs.Bits

namespace Rtcp.Proofs
open Rtcp Rtcp.Impl Rtcp.Spec

@[simp] theorem be16_length (x : UInt16) : (be16 x).length = 2 := rfl
@[simp] theorem be32_length (x : UInt32) : (be32 x).length = 4 := rfl
@[simp] theorem be64_length (x : UInt64) : (be64 x).length = 8 := rfl

@[simp] theorem header_length (pt : UInt8) (pbit : Bool) (count total : Nat) :
    (Spec.header pt pbit count total).length = 4 := rfl

theorem u8_ne_zero_toNat {p : UInt8} (h : p ≠ 0) : p.toNat ≠ 0 :=
  fun h' => h (UInt8.toNat_inj.mp (by simpa using h'))

theorem trailer_length (p : UInt8) : (Spec.trailer p).length = p.toNat := by
  unfold Spec.trailer
  split
  · next h => rw [h]; rfl
  · next h =>
    rw [List.length_append, List.length_replicate]
    exact Nat.sub_add_cancel (Nat.pos_of_ne_zero (u8_ne_zero_toNat h))

theorem packet_length (pt : UInt8) (count : Nat) (padding : UInt8) (body : Bytes) :
    (Spec.packet pt count padding body).length = 4 + body.length + padding.toNat := by
  simp [Spec.packet, trailer_length]; omega

theorem zfill_length (b : Bytes) : (Spec.zfill b).length = pad4 b.length := by
  have := le_pad4 b.length
  simp [Spec.zfill]; omega

theorem zfill_spec (b : Bytes) :
    ∃ fill, zfill b = b ++ List.replicate fill 0 ∧ fill < 4 ∧ (zfill b).length % 4 = 0 :=
  ⟨_, rfl, by have := pad4_lt b.length; omega, by rw [zfill_length]; exact pad4_mod _⟩

theorem mod256_toUInt8_toNat {n : Nat} (h : n < 256) : (n % 256).toUInt8.toNat = n := by
  rw [Nat.mod_eq_of_lt h, toUInt8_toNat_lt n h]

theorem length_flatten_map {α β : Type} {f : α → List β} {k : Nat} (h : ∀ x, (f x).length = k) (xs : List α) :
    ((xs.map f).flatten).length = k * xs.length := by
  induction xs with
  | nil => rfl
  | cons x xs ih =>
    rw [List.map_cons, List.flatten_cons, List.length_append, h, ih, List.length_cons, Nat.mul_succ, Nat.add_comm]

@[simp] theorem rbImage_length (b : ReportBlockBuilder) : (rbImage b).length = 24 := by
  simp [rbImage]

@[simp high] theorem rbImages_length (rbs : List ReportBlockBuilder) :
    ((rbs.map rbImage).flatten).length = 24 * rbs.length := length_flatten_map rbImage_length rbs

@[simp high] theorem srcImages_length (ss : List UInt32) : ((ss.map be32).flatten).length = 4 * ss.length :=
  length_flatten_map be32_length ss

theorem nackWords_length (ws : List NackWord) : ((ws.map nackWordImage).flatten).length = 4 * ws.length :=
  length_flatten_map (f := nackWordImage) (k := 4) (fun _ => rfl) ws

theorem firEntries_length (es : List (UInt32 × UInt8)) : ((es.map firEntryImage).flatten).length = 8 * es.length :=
  length_flatten_map (f := firEntryImage) (k := 8) (fun _ => rfl) es

theorem sliEntries_length (es : List MacroBlockEntry) : ((es.map sliEntryImage).flatten).length = 4 * es.length :=
  length_flatten_map (f := sliEntryImage) (k := 4) (fun _ => rfl) es

theorem rpsiImage_length (b : RpsiBuilder) : (rpsiImage b).length = pad4 (2 + b.nativeBitString.length) := by
  unfold rpsiImage
  rcases List.eq_nil_or_concat b.nativeBitString with h | ⟨init, l, h⟩
  · simp [h, pad4]
  · have hp := le_pad4 (2 + (init.length + 1))
    simp [h]
    omega

theorem fciImage_length_mod4 (f : FciB) : (fciImage f).length % 4 = 0 := by
  cases f with
  | nack b => rw [fciImage, nackImage, nackWords_length]; exact Nat.mul_mod_right 4 _
  | fir b => rw [fciImage, firImage, firEntries_length]; omega
  | sli b => rw [fciImage, sliImage, sliEntries_length]; exact Nat.mul_mod_right 4 _
  | rpsi b => simp only [fciImage, rpsiImage_length]; exact pad4_mod _
  | pli => rfl

theorem chunkImage_length (c : SdesChunkBuilder) :
    (chunkImage c).length = pad4 (4 + ((c.items.map itemImage).flatten).length + 1) := by
  simp [chunkImage, zfill_length, -List.length_flatten, Nat.add_assoc]

theorem chunkImages_length_mod4 (cs : List SdesChunkBuilder) :
    ((cs.map chunkImage).flatten).length % 4 = 0 := by
  induction cs with
  | nil => rfl
  | cons c cs ih =>
    have := pad4_mod (4 + ((c.items.map itemImage).flatten).length + 1)
    simp only [List.map_cons, List.flatten_cons, List.length_append, chunkImage_length]
    omega

theorem srImage_length (b : SrBuilder) :
    (srImage b).length = 28 + 24 * b.reportBlocks.length + b.padding.toNat := by
  simp [srImage, packet_length]; omega

theorem rrImage_length (b : RrBuilder) :
    (rrImage b).length = 8 + 24 * b.reportBlocks.length + b.padding.toNat := by
  simp [rrImage, packet_length]; omega

theorem byeImage_length (b : ByeBuilder) : (byeImage b).length = 4 + 4 * b.sources.length +
    (if b.reason = [] then 0 else pad4 (b.reason.length + 1)) + b.padding.toNat := by
  by_cases h : b.reason = [] <;> simp [byeImage, packet_length, zfill_length, h, Nat.add_assoc]

theorem appImage_length (b : AppBuilder) (h : b.name.length ≤ 4) :
    (appImage b).length = 12 + b.padding.toNat + b.data.length := by
  simp [appImage, packet_length]; omega

/-- the body, then the zeros up to the minimum size -/
theorem bodyEnd_eq (b : CustomBuilder) : b.bodyEnd = 4 + b.body.length + (b.min - 4 - b.body.length) := by
  unfold CustomBuilder.bodyEnd; omega

theorem customImage_length (b : CustomBuilder) : (customImage b).length = b.bodyEnd + b.padding.toNat := by
  simp [customImage, packet_length, bodyEnd_eq, Nat.add_assoc]

theorem fbImage_length (k : FbKind) (f : FciB) (p : UInt8) (s m : UInt32) :
    (fbImage k f p s m).length = 12 + (fciImage f).length + p.toNat := by
  simp [fbImage, packet_length]; omega

theorem encodeEntry_eq (base mask : Nat) :
    NackBuilder.encodeEntry base mask = nackWordImage ⟨base, mask⟩ := by
  have h : ∀ n : Nat, n % 65536 / 256 % 256 = n / 256 % 256 ∧ n % 65536 % 256 = n % 256 := fun n =>
    ⟨by rw [Nat.mod_mul_right_div_self n 256 256, Nat.mod_mod], Nat.mod_mod_of_dvd n (by decide)⟩
  simp only [NackBuilder.encodeEntry, nackWordImage, be16, UInt16.toNat_ofNat',
    List.cons_append, List.nil_append, h]

theorem nack_go_eq (rest : List UInt16) : ∀ (base mask : Nat), (∀ e ∈ rest, base ≤ e.toNat) →
    rest.Pairwise (· < ·) →
    NackBuilder.go base mask rest
      = (nackEncodeFrom base mask (rest.map (·.toNat))).map nackWordImage := by
  induction rest with
  | nil => intro base mask _ _; simp [NackBuilder.go, nackEncodeFrom, encodeEntry_eq]
  | cons e rest ih =>
    intro base mask hb hp
    rw [List.pairwise_cons] at hp
    have he : base ≤ e.toNat := hb e (by simp)
    have hlt := e.toNat_lt
    have hd : (e.toNat + 65536 - base) % 65536 = e.toNat - base := by
      rw [Nat.sub_add_comm he, Nat.add_mod_right, Nat.mod_eq_of_lt (by omega)]
    have hrest : ∀ x ∈ rest, base ≤ x.toNat := fun x hx => hb x (by simp [hx])
    have hrest' : ∀ x ∈ rest, e.toNat ≤ x.toNat := fun x hx =>
      Nat.le_of_lt (UInt16.lt_iff_toNat_lt.mp (hp.1 x hx))
    unfold NackBuilder.go
    -- `diff` is the plain difference, and `diff > 0` says `e > base`: the two definitions branch alike
    simp only [List.map_cons, nackEncodeFrom, hd, Nat.sub_pos_iff_lt]
    by_cases h16 : 16 < e.toNat - base
    · simp only [h16, ↓reduceIte, List.map_cons, encodeEntry_eq]
      rw [ih _ _ hrest' hp.2]
    · by_cases h0 : base < e.toNat
      · simp only [h16, h0, ↓reduceIte, Nat.one_shiftLeft]
        exact ih _ _ hrest hp.2
      · simp only [h16, h0, ↓reduceIte]
        exact ih _ _ hrest hp.2

theorem nack_entries_eq_image (b : NackBuilder) (h : b.rtpSeq.Pairwise (· < ·)) :
    b.entries = (nackEncode (b.rtpSeq.map (·.toNat))).map nackWordImage := by
  unfold NackBuilder.entries
  split
  · next heq => simp [heq, nackEncode]
  · next s rest heq =>
    rw [heq] at h ⊢
    rw [List.pairwise_cons] at h
    exact nack_go_eq rest _ _
      (fun x hx => Nat.le_of_lt (UInt16.lt_iff_toNat_lt.mp (h.1 x hx))) h.2

end Rtcp.Proofs
