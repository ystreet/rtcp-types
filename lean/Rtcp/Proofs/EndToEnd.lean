/-
  C05 end to end, in two halves.  The iterators and accessors of the model, run on the image of a
  builder, give back what was put in (iterator = reference decoder, reference round trip).  An accepted
  feedback packet passes `Fb.parse`, and `parse_fci` hands out the FCI image whenever the FCI parser
  accepts that image.
-/
import Rtcp.Proofs.FciDecode
import Rtcp.Proofs.RoundTrip

namespace Rtcp.Proofs
open Rtcp Rtcp.Impl Rtcp.Spec

theorem nack_codec {ε : Type} (b : NackBuilder) (hs : b.rtpSeq.Pairwise (· < ·)) :
    (Nack.entries (nackImage b) : R ε _) = .ok (b.rtpSeq, true) := by
  rw [nack_entries_ok, nack_roundtrip b.rtpSeq hs]
  simp [Function.comp_def]

theorem fir_codec {ε : Type} (b : FirBuilder) :
    (Fir.entries (firImage b) : R ε _) = .ok (b.ssrcSeq, true) := by
  rw [fir_entries_ok, ← firDecode_map, fir_roundtrip]
  simp [Function.comp_def]

theorem sli_codec {ε : Type} (b : SliBuilder)
    (hr : ∀ e ∈ b.lostMbs, e.start.toNat < 8192 ∧ e.count.toNat < 8192 ∧ e.pictureId.toNat < 64) :
    (Sli.lostMacroblocks (sliImage b) : R ε _) = .ok (b.lostMbs, true) := by
  rw [sli_entries_ok, ← sliDecode_map, sli_roundtrip _ hr]
  simp [Function.comp_def]

theorem rpsi_image_parses (b : RpsiBuilder) (h : rpsiRules b = []) :
    Rpsi.parse (rpsiImage b) = .ok (rpsiImage b) := by
  obtain ⟨-, hk, hemp⟩ := rpsiRules_nil.mp h
  have hl := rpsiImage_length b
  have hp := le_pad4 (2 + b.nativeBitString.length)
  have hp' := pad4_lt (2 + b.nativeBitString.length)
  -- the first octet is 8 * (octets of zero fill) + unused bits; whole octets of unused bits occur
  -- only when there is a bit string
  have h0 : u8At (rpsiImage b) 0 = 8 * (pad4 (2 + b.nativeBitString.length) - b.nativeBitString.length - 2)
      + b.nativeBitOverrun.toNat := mod256_toUInt8_toNat (by omega)
  have hq : b.nativeBitOverrun.toNat / 8 ≤ b.nativeBitString.length := by
    by_cases hd : b.nativeBitString = []
    · rw [hemp hd]; exact Nat.zero_le _
    · exact Nat.le_trans (Nat.div_le_of_le_mul hk) (List.length_pos_iff.mpr hd)
  refine (rpsi_outcome _).accepts.mpr ⟨?_, ?_⟩
  · rw [hl]
    exact Nat.le_of_dvd (Nat.lt_of_lt_of_le (Nat.lt_of_lt_of_le Nat.two_pos (Nat.le_add_right 2 _)) hp)
      (Nat.dvd_of_mod_eq_zero (pad4_mod _))
  · rw [h0, hl, Nat.mul_add_div (by decide)]
    omega

theorem rpsi_codec {ε : Type} (b : RpsiBuilder) (hr : rpsiRules b = []) :
    ∃ sl k, (Rpsi.payloadType (rpsiImage b) : R ε UInt8) = .ok b.payloadType ∧
      (Rpsi.bitString 0 (rpsiImage b) : R ε (Slice × Nat)) = .ok (sl, k) ∧
      (bitsOf sl.bytes).take (8 * sl.bytes.length - k) = rpsiBits b.nativeBitString b.nativeBitOverrun.toNat := by
  obtain ⟨pt, bits, sl, k, hdec, hpt, hbs, hbits, _⟩ := rpsi_decode_eq (ε := ε) (rpsiImage b) (rpsi_image_parses b hr)
  rw [rpsi_roundtrip b hr] at hdec
  obtain ⟨rfl, rfl⟩ := hdec
  exact ⟨sl, k, by rw [hpt, Read.toNat_toUInt8], hbs, hbits⟩

/-- the FCI parsers on the builders' images; empty FIR and SLI bodies are refused (known finding,
    `empty_fir_refused`, `empty_sli_refused`) -/
theorem fci_image_parses (f : FciB) (hr : fciRules f = [])
    (hne : match (generalizing := false) f with | .fir b => b.ssrcSeq ≠ [] | .sli b => b.lostMbs ≠ [] | _ => True) :
    (fciTypeOf f).parse (fciImage f) = .ok (fciImage f) := by
  cases f with
  | nack b => rfl
  | fir b =>
    exact (fir_outcome _).accepts.mpr
      (firEntries_length b.ssrcSeq ▸ Nat.le_mul_of_pos_right 8 (List.length_pos_iff.mpr hne))
  | sli b =>
    exact (sli_outcome _).accepts.mpr
      (sliEntries_length b.lostMbs ▸ Nat.le_mul_of_pos_right 4 (List.length_pos_iff.mpr hne))
  | rpsi b => exact rpsi_image_parses b hr
  | pli => rfl

theorem fb_fci_end_to_end (k : FbKind) (f : FciB)
    (hf : match f with | .nack b => b.rtpSeq.Pairwise (· < ·) | _ => True)
    (hne : match (generalizing := false) f with | .fir b => b.ssrcSeq ≠ [] | .sli b => b.lostMbs ≠ [] | _ => True)
    (p : UInt8) (s m : UInt32) (h : fbRules k f p = []) :
    Fb.parse k (fbImage k f p s m) = .ok (fbImage k f p s m) ∧
    Fb.parseFci k (fciTypeOf f) (fbImage k f p s m) = .ok (fciImage f) := by
  obtain ⟨hp, _, _, _, _, hfci⟩ := fb_roundtrip (ε := Unit) k f hf p s m h
  exact ⟨hp, hfci.trans (fci_image_parses f (fbRules_nil.mp h).2.2.1 hne)⟩

end Rtcp.Proofs
