/-
  The SDES writers.  Item and chunk writers are handed `&mut buf[idx..]`, so they are `Writes`
  (whatever the slice, they put their image at its front); they do so whether or not the size
  calculation accepted, because the images carry the same `% 256` truncations as the code.
-/
import Rtcp.Proofs.Rules

namespace Rtcp.Proofs
open Rtcp Rtcp.Impl Rtcp.Spec Rtcp.Props

theorem item_writes (b : SdesItemBuilder) : Writes b.writeUnchecked (itemImage b) := by
  refine Writes.of_done fun r hr => ?_
  unfold SdesItemBuilder.writeUnchecked
  unfold itemImage at hr ⊢
  by_cases hp : b.type = 8
  · simp only [hp, SdesItem.PRIV, beq_self_eq_true, if_true] at hr ⊢
    simp only [List.length_append, List.length_cons, List.length_nil] at hr
    simp (disch := buf_side) only [setByte_done, copyAt_done, R.ok_bind]
    exact writes_done rfl (by simp; omega)
  · simp only [hp, SdesItem.PRIV, beq_iff_eq, if_false] at hr ⊢
    simp only [List.length_append, List.length_cons, List.length_nil] at hr
    simp (disch := buf_side) only [setByte_done, copyAt_done, R.ok_bind]
    exact writes_done rfl (by simp)

theorem writeItems_seq : SeqLoop SdesChunkBuilder.writeItems itemImage where
  nil _ _ := rfl
  cons it its done buf i hi hr := by
    simp only [SdesChunkBuilder.writeItems]
    rw [withTail_done (item_writes it) ⟨hi, hr⟩]

theorem chunk_writes (b : SdesChunkBuilder) : Writes b.writeUnchecked (chunkImage b) := by
  refine Writes.of_done fun r hr => ?_
  rw [chunkImage_length] at hr ⊢
  have hp := le_pad4 (4 + ((b.items.map itemImage).flatten).length + 1)
  unfold SdesChunkBuilder.writeUnchecked
  simp (disch := buf_side) only [copyAt_done, seq_write writeItems_seq, fillAt_if_done, R.ok_bind, R.pure_eq,
    gt_iff_lt]
  generalize hS : ((b.items.map itemImage).flatten).length = S at *
  -- the fill starts one byte early: it also writes the terminating null of the item list
  rw [show pad4 (4 + S + 1) - (4 + S) = pad4 (4 + S + 1) - (4 + S + 1) + 1 by omega, List.replicate_succ]
  simp [chunkImage, zfill, hS, Nat.add_assoc]

theorem chunk_refines (b : SdesChunkBuilder) :
    Refines ⟨b.calcSize, b.writeUnchecked, none⟩ (chunkImage b) :=
  FirstErr.refines (chunk_calcSize b) fun _ => ⟨rfl, (chunk_writes b).fills⟩

theorem writeChunks_seq : SeqLoop SdesBuilder.writeChunks chunkImage where
  nil _ _ := rfl
  cons c cs done buf i hi hr := by
    simp only [SdesBuilder.writeChunks]
    rw [withTail_done (chunk_writes c) ⟨hi, hr⟩]

theorem sdes_fills (b : SdesBuilder) (hc : b.chunks.length ≤ 31) : Fills b.writeUnchecked (sdesImage b) := by
  intro buf hl
  have hn := hl.trans (packet_length ..)
  unfold SdesBuilder.writeUnchecked
  rw [writeHeader_count _ _ _ (by omega) hc]
  simp (disch := buf_side) only [seq_write writeChunks_seq, writePadding_done, R.ok_bind]
  exact packet_done hl (by omega) rfl

theorem sdes_refines (b : SdesBuilder) : Refines b.toWriter (sdesImage b) :=
  FirstErr.refines (sdes_calcSize b) fun hr => ⟨packet_length .., sdes_fills b (sdesRules_nil.mp hr).1⟩

end Rtcp.Proofs
