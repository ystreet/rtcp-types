/-
  The linear-time drivers of `Rtcp/Impl/Fast.lean` compute exactly what the model's own iterator
  drivers compute, for every input.  First (namespace `SdesLoops`) the loops of the linear SDES scanner:
  they are the model's loops as functions of the bytes still to be read (a loop at offset `off` sees
  `d.drop off` up to `chunksEnd`, not the packet); same method as for the model's loops, one equation
  per turn and induction towards the limit.
-/
import Rtcp.Impl.Fast
import Rtcp.Proofs.FciIter
import Rtcp.Proofs.CompoundParse
import Rtcp.Proofs.SdesSteps

namespace Rtcp.Proofs.SdesLoops
open Rtcp Rtcp.Impl Rtcp.Spec Rtcp.Proofs.Read Rtcp.Proofs.SdesAux

theorem itemGo_eq (base len : Nat) (rest : Bytes) (off : Nat) (acc : List SdesItem) :
    Fast.itemGo base len rest off acc =
      if off < len then
        if rest.head? = some 0 then .ok (acc.reverse, off + 1)
        else Fast.itemParseN (base + off) rest (len - off) >>= fun p =>
          Fast.itemGo base len (rest.drop p.2) (off + p.2) (p.1 :: acc)
      else .ok (acc.reverse, off) := by
  rw [Fast.itemGo]
  split
  · simp only [beq_iff_eq]
    split
    · rfl
    · split <;> simp only [*, R.ok_bind, R.err_bind, R.panic_bind]
  · rfl

theorem chunkGo_eq (ce : Nat) (rest : Bytes) (off : Nat) (acc : List SdesChunk) :
    Fast.chunkGo ce rest off acc =
      if off < ce then
        Fast.chunkParseN off rest (ce - off) >>= fun p =>
          Fast.chunkGo ce (rest.drop p.2) (off + p.2) (p.1 :: acc)
      else .ok acc.reverse := by
  rw [Fast.chunkGo]
  split
  · split <;> simp only [*, R.ok_bind, R.err_bind, R.panic_bind]
  · rfl

theorem itemLoop_region (base : Nat) (d : Bytes) (off : Nat) (acc : List SdesItem) :
    SdesChunk.itemLoop base d off acc.reverse = Fast.itemGo base d.length (d.drop off) off acc := by
  induction off using loop_induction d.length generalizing acc with
  | step off ih =>
    rw [itemLoop_eq, itemGo_eq, ← List.length_drop]
    -- `itemParseN base s s.length` is `SdesItem.parse base s` by unfolding
    show _ = if _ then if _ then _ else SdesItem.parse _ _ >>= _ else _
    cases hp : SdesItem.parse (base + off) (d.drop off) with
    | ok p =>
      have := SdesItem.parse_consumed hp
      rw [List.length_drop] at this
      simp only [R.ok_bind, List.drop_drop]
      rw [← ih _ (by omega) (by omega), List.reverse_cons]
    | err e | panic => rfl

theorem chunkParse_region (base : Nat) (d : Bytes) :
    SdesChunk.parse base d = Fast.chunkParseN base d d.length := by
  unfold Fast.chunkParseN SdesChunk.parse
  split
  · rfl
  · rw [slice_ok d 0 4 ⟨by omega, by omega⟩, ← itemLoop_region base d 4 []]
    rfl

theorem chunkLoop_region (d : Bytes) (ce : Nat) (hce : ce ≤ d.length) (off : Nat) (acc : List SdesChunk) :
    Sdes.chunkLoop d ce off acc.reverse = Fast.chunkGo ce (range d off ce) off acc := by
  induction off using loop_induction ce generalizing acc with
  | step off ih =>
    rw [chunkLoop_eq, chunkGo_eq]
    split
    · rename_i hlt
      rw [slice_ok d off ce ⟨by omega, hce⟩, R.ok_bind, chunkParse_region, range_length d off ce hce]
      cases hp : Fast.chunkParseN off (range d off ce) (ce - off) with
      | ok p =>
        have := Fast.chunkParseN_consumed hp
        simp only [R.ok_bind]
        rw [← List.reverse_cons, ih _ hlt (by omega), drop_range]
      | err e | panic => rfl
    · rfl

end Rtcp.Proofs.SdesLoops

namespace Rtcp.Proofs
open Rtcp Rtcp.Impl Rtcp.Spec

/-! ## NACK, FIR, SLI: induction along the recursion of the linear function itself -/

theorem fast_nackWord_eq (a b c e : UInt8) :
    Fast.nackWord a b c e
      = (NackWord.decode ⟨a.toNat * 256 + b.toNat, c.toNat * 256 + e.toNat⟩).map Nat.toUInt16 := by
  simp [Fast.nackWord, NackWord.decode, Function.comp_def]

theorem fast_nackGo_eq (d : Bytes) (acc : List UInt16) :
    Fast.nackGo d acc = acc.reverse ++ (nackDecode d).map Nat.toUInt16 := by
  fun_induction Fast.nackGo d acc with
  | case1 a b c e rest acc ih => rw [ih, nackDecode_cons4, fast_nackWord_eq]; simp
  | case2 l acc hl => simp [nackDecode, words32_short (lt4_of_no_word hl)]

theorem fast_nack_eq {ε} (d : Bytes) : (Fast.nackEntries d : R ε _) = Nack.entries d := by
  rw [nack_entries_ok, Fast.nackEntries, fast_nackGo_eq]; rfl

theorem fast_firGo_eq (d : Bytes) (acc : List (UInt32 × UInt8)) :
    Fast.firGo d acc = acc.reverse ++ (words64 d).map firEntryOfWord := by
  fun_induction Fast.firGo d acc with
  | case1 a b c e f g h k rest acc ih => rw [ih, List.reverse_cons, List.append_assoc]; rfl
  | case2 l acc hl => rw [words64_short (lt8_of_no_word hl), List.map_nil, List.append_nil]

theorem fast_sliGo_eq (d : Bytes) (acc : List MacroBlockEntry) :
    Fast.sliGo d acc = acc.reverse ++ (words32 d).map sliEntryOfWord := by
  fun_induction Fast.sliGo d acc with
  | case1 a b c e rest acc ih => rw [ih, List.reverse_cons, List.append_assoc]; rfl
  | case2 l acc hl => rw [words32_short (lt4_of_no_word hl), List.map_nil, List.append_nil]

/-! ## Compound (`rest` is `d.drop off`, and the pattern match reads the length field), then `Sdes.parse` -/

theorem drop_no_cons4 {d : Bytes} {off : Nat} (hno : ∀ a b x y t, d.drop off = a :: b :: x :: y :: t → False) :
    d.length < off + 4 := by
  have := lt4_of_no_word hno
  rw [List.length_drop] at this
  omega

theorem fast_parseGo_eq (d : Bytes) (off : Nat) :
    Fast.parseGo d.length (d.drop off) off = Compound.parseLoop d off := by
  generalize hr : d.drop off = rest
  fun_induction Fast.parseGo d.length rest off with
  | case1 off hlt a b x y t hpl =>
    obtain ⟨h4, hlf⟩ := Read.drop_cons4 hr
    rw [parseLoop_eq, if_pos hlt, if_neg (Nat.not_lt.mpr h4), hlf, if_pos hpl]
  | case2 off hlt a b x y t hpl ih =>
    obtain ⟨h4, hlf⟩ := Read.drop_cons4 hr
    rw [parseLoop_eq d off, if_pos hlt, if_neg (Nat.not_lt.mpr h4), hlf, if_neg hpl]
    exact ih (by rw [← hr, List.drop_drop])
  | case3 rest off hlt hno =>
    subst hr
    rw [parseLoop_eq, if_pos hlt, if_pos (drop_no_cons4 hno)]
  | case4 rest off hge => rw [parseLoop_eq, if_neg hge]

theorem fast_compoundGo_eq {ε : Type} (data : Bytes) : ∀ (fuel off : Nat) (over : Bool)
    (acc : List (R ParseError Packet × Nat)),
    (Fast.compoundGo data data.length fuel (data.drop off) off over acc : R ε _)
      = Compound.collect fuel ⟨data, off, over⟩ acc.reverse := by
  intro fuel
  induction fuel with
  | zero => intro off over acc; rfl
  | succ fuel ih =>
    intro off over acc
    cases over with
    | true => rfl
    | false =>
      unfold Fast.compoundGo
      rw [if_neg Bool.false_ne_true]
      split
      · rename_i a b x y t hr
        rw [Compound.collect, next_eq, (Read.drop_cons4 hr).2]
        by_cases hfit : off + 4 * (x.toNat * 256 + y.toNat + 1) ≤ data.length
        · rw [if_pos hfit, if_pos hfit]
          cases Packet.parse (List.take (4 * (x.toNat * 256 + y.toNat + 1)) (data.drop off)) with
          | panic => rfl
          | ok p | err e => simp only []; rw [List.drop_drop, ih, List.reverse_cons]
        · rw [if_neg hfit, if_neg hfit]
      · rename_i hno
        have h4 := drop_no_cons4 hno
        have hg := Read.lengthField_ge (data.drop off)
        rw [Compound.collect, next_eq, if_neg (fun h => by omega)]

/-- the side condition is not needed (`Props.fast_compound_eq` is stated without it) -/
theorem fast_compound_eq {ε} (fuel : Nat) (c : Compound) (h : c.offset ≤ c.data.length) :
    (Fast.compoundCollect fuel c : R ε _) = Compound.collect fuel c [] :=
  have _ := h
  fast_compoundGo_eq c.data fuel c.offset c.isOver []

theorem fast_sdesParse_eq (d : Bytes) : Fast.sdesParse d = Sdes.parse d := by
  unfold Fast.sdesParse Sdes.parse
  refine congrArg (checkPacket 4 202 d >>= ·) (funext fun _ =>
    congrArg (parsePadding d >>= ·) (funext fun p => ?_))
  dsimp only
  split
  · rfl
  · rw [show Sdes.chunkLoop d _ 4 [] = _ from
      SdesLoops.chunkLoop_region d (d.length - (p.getD 0).toNat) (by omega) 4 []]
    rfl

end Rtcp.Proofs
