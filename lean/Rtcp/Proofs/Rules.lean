/-
  Size calculation against the rules of Spec/Rules.lean.  Every `calcSize` is a chain of guards in the
  order of the rule list: it fails with the FIRST violated rule and otherwise returns the length of the
  image.  `firstErr rules k` is that closed form; the lemmas of `FirstErr` follow the shape of the code
  (`guard` for `if … { return Err }`, `bind` for a checked sub-computation, `size` for the closing
  `check_packet_len`), and each builder gets ONE equation `x_calcSize`.
-/
import Rtcp.Spec.All
import Rtcp.Props.WriterContract  -- `Refines`, which `FirstErr.refines` concludes, is defined there
import Rtcp.Proofs.BufLemmas

namespace Rtcp.Proofs
open Rtcp Rtcp.Impl Rtcp.Spec

def firstErr {α : Type} (rules : List WriteError) (k : R WriteError α) : R WriteError α :=
  match rules with
  | [] => k
  | e :: _ => .err e

@[simp] theorem firstErr_nil {α : Type} (k : R WriteError α) : firstErr [] k = k := rfl

namespace FirstErr
variable {α : Type} {c k : R WriteError α} {rules : List WriteError}

/-- `if p { return Err(e) }`, `q` being the rule's own wording of `p` -/
theorem guard {p q : Prop} [Decidable p] [Decidable q] {e : WriteError} (hpq : p ↔ q)
    (h : ¬ q → c = firstErr rules k) :
    (if p then .err e else c) = firstErr ((if q then [e] else []) ++ rules) k := by
  by_cases hq : q
  · simp [hq, hpq.mpr hq, firstErr]
  · simpa [hq, mt hpq.mp hq] using h hq

/-- the same for rules written as a cascade `if q then [e] else rules` -/
theorem guardElse {p q : Prop} [Decidable p] [Decidable q] {e : WriteError} (hpq : p ↔ q)
    (h : ¬ q → c = firstErr rules k) :
    (if p then .err e else c) = firstErr (if q then [e] else rules) k := by
  by_cases hq : q
  · simp [hq, hpq.mpr hq, firstErr]
  · simpa [hq, mt hpq.mp hq] using h hq

theorem last {p q : Prop} [Decidable p] [Decidable q] {e : WriteError} (hpq : p ↔ q) :
    (if p then .err e else k) = firstErr (if q then [e] else []) k :=
  guardElse hpq fun _ => rfl

/-- `let a = x?;` -/
theorem bind {β : Type} {x : R WriteError β} {a : β} {f : β → R WriteError α} {r₁ r₂ : List WriteError}
    (hx : x = firstErr r₁ (.ok a)) (h : r₁ = [] → f a = firstErr r₂ k) :
    x >>= f = firstErr (r₁ ++ r₂) k := by
  subst hx
  cases r₁ with
  | nil => exact h rfl
  | cons e r => rfl

theorem andThen {β : Type} {x : R WriteError β} {a : β} {f : β → R WriteError α} {r : List WriteError}
    (hx : x = firstErr r (.ok a)) : x >>= f = firstErr r (f a) := by
  subst hx; cases r <;> rfl

/-- the closing `check_packet_len` of the builders whose other rules do not bound the size -/
theorem size {c : R WriteError Nat} {n : Nat} (h : c = firstErr rules (checkPacketLen n)) :
    c = firstErr (rules ++ if rules = [] then sizeRule n else []) (.ok n) := by
  subst h
  cases rules with
  | nil => unfold checkPacketLen sizeRule maxPacketLen; by_cases hn : n > 262144 <;> simp [hn, firstErr]
  | cons e r => rfl

theorem of_ok {n m : Nat} (h : firstErr rules (.ok n) = .ok m) : rules = [] ∧ m = n := by
  cases rules with
  | nil => cases h; exact ⟨rfl, rfl⟩
  | cons e r => cases h

theorem nil_of_ok {c : R WriteError Nat} {n m : Nat} (hc : c = firstErr rules (.ok n)) (hm : c = .ok m) :
    rules = [] := (of_ok (hc.symm.trans hm)).1

theorem decides {c : R WriteError Nat} {n : Nat} (h : c = firstErr rules (.ok n)) : Decides c rules := by
  subst h
  cases rules with
  | nil => exact ⟨⟨fun _ => rfl, fun _ => ⟨n, rfl⟩⟩, nofun, nofun⟩
  | cons e r => exact ⟨⟨fun ⟨_, h⟩ => (nomatch h), nofun⟩, fun _ h => by cases h; simp, nofun⟩

theorem refines {w : Writer} {img : Bytes} {n : Nat} (h : w.calcSize = firstErr rules (.ok n))
    (hw : rules = [] → img.length = n ∧ Fills w.write img) : Props.Refines w img where
  noPanic := (decides h).noPanic
  exact m hm := by
    obtain ⟨hr, rfl⟩ := of_ok (h ▸ hm)
    obtain ⟨rfl, hf⟩ := hw hr
    exact ⟨rfl, hf⟩

end FirstErr

theorem padRule_nil {p : UInt8} : padRule p = [] ↔ p.toNat % 4 = 0 := by simp [padRule]

theorem sizeRule_nil {n : Nat} : sizeRule n = [] ↔ n ≤ 262144 := by simp [sizeRule]

theorem append_sizeRule_nil {rules : List WriteError} {n : Nat} :
    rules ++ (if rules = [] then sizeRule n else []) = [] ↔ rules = [] ∧ n ≤ 262144 := by
  cases rules <;> simp [sizeRule_nil]

theorem checkPadding_eq (p : UInt8) : checkPadding p = firstErr (padRule p) (.ok ()) := by
  rw [checkPadding_eq_ite, padRule]
  by_cases h : p.toNat % 4 = 0 <;> simp [h, firstErr]

/-- the three size loops (`rbSizes`, `itemSizes`, `chunkSizes`), each given by its two equations -/
theorem sizes_eq {β : Type} {c : β → R WriteError Nat} {r : β → List WriteError} {sz : β → Nat}
    {loop : List β → Nat → R WriteError Nat} (hnil : ∀ acc, loop [] acc = .ok acc)
    (hcons : ∀ x xs acc, loop (x :: xs) acc =
      match c x with | .ok n => loop xs (acc + n) | .err e => .err e | .panic => .panic)
    (hc : ∀ x, c x = firstErr (r x) (.ok (sz x))) (xs : List β) (acc : Nat) :
    loop xs acc = firstErr (xs.map r).flatten (.ok (acc + (xs.map sz).sum)) := by
  induction xs generalizing acc with
  | nil => exact hnil acc
  | cons x xs ih =>
    rw [hcons, hc]
    cases hr : r x with
    | nil => simpa [hr, Nat.add_assoc] using ih (acc + sz x)
    | cons e _ => simp [hr, firstErr]

theorem rb_calcSize (b : ReportBlockBuilder) : b.calcSize = firstErr (rbRules b) (.ok 24) := by
  unfold ReportBlockBuilder.calcSize rbRules
  exact FirstErr.last (by simp; omega)

theorem rbSizes_eq (rbs : List ReportBlockBuilder) :
    rbSizes rbs 0 = firstErr (rbs.map rbRules).flatten (.ok (24 * rbs.length)) := by
  simpa [List.map_const', Nat.mul_comm] using
    sizes_eq (loop := rbSizes) (sz := fun _ => 24) (fun _ => rfl) (fun _ _ _ => rfl) rb_calcSize rbs 0

theorem sr_calcSize (b : SrBuilder) :
    b.calcSize = firstErr (srRules b) (.ok (28 + 24 * b.reportBlocks.length + b.padding.toNat)) := by
  unfold SrBuilder.calcSize srRules
  rw [List.append_assoc]
  exact FirstErr.guard .rfl fun _ => FirstErr.bind (checkPadding_eq _) fun _ => FirstErr.andThen (rbSizes_eq _)

theorem rr_calcSize (b : RrBuilder) :
    b.calcSize = firstErr (rrRules b) (.ok (8 + 24 * b.reportBlocks.length + b.padding.toNat)) := by
  unfold RrBuilder.calcSize rrRules
  rw [List.append_assoc]
  exact FirstErr.guard .rfl fun _ => FirstErr.bind (checkPadding_eq _) fun _ => FirstErr.andThen (rbSizes_eq _)

theorem rbRules_nil {b : ReportBlockBuilder} : rbRules b = [] ↔ b.cumulativeLost.toNat < 16777216 := by
  simp [rbRules]; omega

theorem srRules_nil {b : SrBuilder} : srRules b = [] ↔
    b.reportBlocks.length ≤ 31 ∧ b.padding.toNat % 4 = 0 ∧ ∀ rb ∈ b.reportBlocks, rbRules rb = [] := by
  simp [srRules, padRule_nil]

theorem rrRules_nil {b : RrBuilder} : rrRules b = [] ↔
    b.reportBlocks.length ≤ 31 ∧ b.padding.toNat % 4 = 0 ∧ ∀ rb ∈ b.reportBlocks, rbRules rb = [] := by
  simp [rrRules, padRule_nil]

theorem bye_calcSize (b : ByeBuilder) :
    b.calcSize = firstErr (byeRules b) (.ok (4 + 4 * b.sources.length +
      (if b.reason = [] then 0 else pad4 (b.reason.length + 1)) + b.padding.toNat)) := by
  unfold ByeBuilder.calcSize byeRules
  rw [List.append_assoc]
  refine FirstErr.guard .rfl fun _ => FirstErr.bind (checkPadding_eq _) fun hp => ?_
  by_cases hr : b.reason = []
  · simp [hr]
  · have hie : b.reason.isEmpty = false := by simpa using hr
    -- the code pads the whole size, the image only the reason: the same once the padding is a multiple of 4
    have h4 : pad4 (4 + 4 * b.sources.length + b.padding.toNat + 1 + b.reason.length)
        = 4 + 4 * b.sources.length + pad4 (b.reason.length + 1) + b.padding.toNat := by
      rw [Nat.add_assoc _ 1, pad4_add_of_mod _ (by have := padRule_nil.mp hp; omega), Nat.add_comm 1,
        Nat.add_right_comm]
    simp only [hie, hr, h4, Bool.not_false, ↓reduceIte]
    exact FirstErr.last .rfl

theorem byeRules_nil {b : ByeBuilder} : byeRules b = [] ↔
    b.sources.length ≤ 31 ∧ b.padding.toNat % 4 = 0 ∧ b.reason.length ≤ 255 := by
  simp [byeRules, padRule_nil]

theorem app_calcSize (b : AppBuilder) :
    b.calcSize = firstErr (appRules b) (.ok (12 + b.padding.toNat + b.data.length)) := by
  unfold AppBuilder.calcSize appRules
  apply FirstErr.size
  simp only [List.append_assoc]
  refine FirstErr.guard ?_ fun _ => FirstErr.guard ?_ fun _ => FirstErr.guard ?_ fun _ => FirstErr.andThen (checkPadding_eq _)
  · exact UInt8.lt_iff_toNat_lt
  · simp [UInt8.lt_iff_toNat_lt]
  · simp

theorem appRules_nil {b : AppBuilder} : appRules b = [] ↔
    b.subtype.toNat ≤ 31 ∧ (b.name.length ≤ 4 ∧ ∀ c ∈ b.name, c.toNat < 128) ∧ b.data.length % 4 = 0 ∧
      b.padding.toNat % 4 = 0 ∧ 12 + b.padding.toNat + b.data.length ≤ 262144 := by
  simp only [appRules, append_sizeRule_nil]
  simp [padRule_nil, and_assoc]

theorem unknown_calcSize (b : UnknownBuilder) :
    b.calcSize = firstErr (unknownRules b) (.ok (4 + b.data.length + b.padding.toNat)) := by
  unfold UnknownBuilder.calcSize unknownRules
  apply FirstErr.size
  simp only [List.append_assoc]
  refine FirstErr.guard UInt8.lt_iff_toNat_lt fun _ => FirstErr.bind (checkPadding_eq _) fun _ => ?_
  exact FirstErr.last (by simp)

theorem unknownRules_nil {b : UnknownBuilder} : unknownRules b = [] ↔
    b.count.toNat ≤ 31 ∧ b.padding.toNat % 4 = 0 ∧ b.data.length % 4 = 0 ∧
      4 + b.data.length + b.padding.toNat ≤ 262144 := by
  simp only [unknownRules, append_sizeRule_nil]
  simp [padRule_nil, and_assoc]

theorem custom_calcSize (b : CustomBuilder) :
    b.calcSize = firstErr (customRules b) (.ok (b.bodyEnd + b.padding.toNat)) := by
  unfold CustomBuilder.calcSize customRules
  refine FirstErr.bind (checkPadding_eq _) fun _ => ?_
  exact FirstErr.last (by simp)

theorem customRules_nil {b : CustomBuilder} : customRules b = [] ↔
    b.padding.toNat % 4 = 0 ∧ b.body.length % 4 = 0 := by
  simp [customRules, padRule_nil]

theorem item_calcSize (b : SdesItemBuilder) :
    b.calcSize = firstErr (itemRules b) (.ok (itemImage b).length) := by
  unfold SdesItemBuilder.calcSize itemRules itemImage SdesItem.PRIV
  by_cases ht : b.type = 8
  · simp only [ht, beq_self_eq_true, if_true]
    refine FirstErr.guardElse (by omega) fun h1 => ?_
    rw [Nat.mod_eq_of_lt (by omega)]
    exact FirstErr.guardElse (by omega) fun _ => by simp; omega
  · simp only [beq_iff_eq, ht, if_false]
    exact FirstErr.guardElse .rfl fun _ => by simp; omega

theorem itemSizes_eq (its : List SdesItemBuilder) :
    SdesChunkBuilder.itemSizes its 0
      = firstErr (its.map itemRules).flatten (.ok ((its.map itemImage).flatten).length) := by
  simpa [List.length_flatten, Function.comp_def] using
    sizes_eq (loop := SdesChunkBuilder.itemSizes) (fun _ => rfl) (fun _ _ _ => rfl) item_calcSize its 0

theorem chunk_calcSize (b : SdesChunkBuilder) :
    b.calcSize = firstErr (chunkRules b) (.ok (chunkImage b).length) := by
  rw [chunkImage_length]
  exact FirstErr.andThen (itemSizes_eq b.items)

theorem chunkSizes_eq (cs : List SdesChunkBuilder) :
    SdesBuilder.chunkSizes cs 0
      = firstErr (cs.map chunkRules).flatten (.ok ((cs.map chunkImage).flatten).length) := by
  simpa [List.length_flatten, Function.comp_def] using
    sizes_eq (loop := SdesBuilder.chunkSizes) (fun _ => rfl) (fun _ _ _ => rfl) chunk_calcSize cs 0

theorem sdes_calcSize (b : SdesBuilder) :
    b.calcSize = firstErr (sdesRules b)
      (.ok (4 + ((b.chunks.map chunkImage).flatten).length + b.padding.toNat)) := by
  unfold SdesBuilder.calcSize sdesRules
  apply FirstErr.size
  simp only [List.append_assoc]
  exact FirstErr.guard .rfl fun _ => FirstErr.bind (checkPadding_eq _) fun _ => FirstErr.andThen (chunkSizes_eq _)

theorem sdesRules_nil {b : SdesBuilder} : sdesRules b = [] ↔
    b.chunks.length ≤ 31 ∧ b.padding.toNat % 4 = 0 ∧ (∀ c ∈ b.chunks, chunkRules c = []) ∧
      4 + ((b.chunks.map chunkImage).flatten).length + b.padding.toNat ≤ 262144 := by
  simp only [sdesRules, append_sizeRule_nil]
  simp [padRule_nil, and_assoc, -List.length_flatten]

theorem rpsi_calcSize (b : RpsiBuilder) :
    b.calcSize = firstErr (rpsiRules b) (.ok (pad4 (2 + b.nativeBitString.length))) := by
  unfold RpsiBuilder.calcSize rpsiRules
  refine FirstErr.guard UInt8.lt_iff_toNat_lt fun _ => ?_
  exact FirstErr.last (by simp [UInt8.lt_iff_toNat_lt])

theorem rpsiRules_nil {b : RpsiBuilder} : rpsiRules b = [] ↔
    b.payloadType.toNat ≤ 127 ∧ b.nativeBitOverrun.toNat ≤ 8 ∧
      (b.nativeBitString = [] → b.nativeBitOverrun.toNat = 0) := by
  simp only [rpsiRules, List.append_eq_nil_iff, ite_eq_right_iff, List.cons_ne_self, imp_false,
    not_or, not_and, Nat.not_lt, Nat.le_zero]

/-- the five built-in FCI builders (the NACK set being the ascending list it always is) -/
theorem fci_calcSize (f : FciB) (hf : match f with | .nack b => b.rtpSeq.Pairwise (· < ·) | _ => True) :
    f.toFci.w.calcSize = firstErr (fciRules f) (.ok (fciImage f).length) := by
  cases f with
  | nack b =>
    simp only [FciB.toFci, NackBuilder.toFci, NackBuilder.calcSize, fciRules, fciImage, nackImage,
      nackWords_length, nack_entries_eq_image b hf, List.length_map]
    rw [Nat.mul_comm]
    exact FirstErr.last .rfl
  | fir b =>
    simp only [FciB.toFci, FirBuilder.toFci, FirBuilder.calcSize, fciRules, fciImage, firImage, firEntries_length]
    exact FirstErr.guardElse .rfl fun _ => by simp; omega
  | sli b =>
    simp only [fciImage, sliImage, sliEntries_length]
    rfl
  | rpsi b =>
    simp only [fciImage, rpsiImage_length]
    exact rpsi_calcSize b
  | pli => rfl

theorem fbType_and_comm (a b : FbType) : FbType.and a b = FbType.and b a := by
  simp only [FbType.and, Bool.and_comm]

theorem fb_kind (k : FbKind) (f : FciB) :
    FbType.and f.toFci.supports k.ty == FbType.none ↔ fciKind f ≠ k := by
  cases f <;> cases k <;> simp [FciB.toFci, NackBuilder.toFci, FirBuilder.toFci, SliBuilder.toFci,
    RpsiBuilder.toFci, pliFci, fciKind] <;> decide

theorem fb_calcSize (k : FbKind) (f : FciB)
    (hf : match f with | .nack b => b.rtpSeq.Pairwise (· < ·) | _ => True) (p : UInt8) (s m : UInt32) :
    FbBuilder.calcSize ⟨k, f.toFci, p, s, m⟩
      = firstErr (fbRules k f p) (.ok (12 + (fciImage f).length + p.toNat)) := by
  unfold FbBuilder.calcSize fbRules
  apply FirstErr.size
  simp only [List.append_assoc]
  refine FirstErr.bind (checkPadding_eq p) fun _ => FirstErr.guard (fb_kind k f) fun _ => ?_
  rw [← pad4_of_mod (fciImage_length_mod4 f)]
  exact FirstErr.andThen (fci_calcSize f hf)

theorem fbRules_nil {k : FbKind} {f : FciB} {p : UInt8} : fbRules k f p = [] ↔
    p.toNat % 4 = 0 ∧ fciKind f = k ∧ fciRules f = [] ∧ 12 + (fciImage f).length + p.toNat ≤ 262144 := by
  simp only [fbRules, append_sizeRule_nil]
  simp [padRule_nil, and_assoc]

/-! ## accepted sizes: multiples of 4 (C06) that fit the 16-bit length field

  Whatever a chain returns, it returned under a configuration without violations (`FirstErr.of_ok`;
  `fb_size`, for any FCI writer, has no closed form to read it off and peels the binds). -/

theorem sr_size {b : SrBuilder} {n : Nat} (h : b.calcSize = .ok n) : n % 4 = 0 ∧ n ≤ 262144 := by
  obtain ⟨hr, rfl⟩ := FirstErr.of_ok (sr_calcSize b ▸ h)
  have := srRules_nil.mp hr
  have := b.padding.toNat_lt
  omega

theorem rr_size {b : RrBuilder} {n : Nat} (h : b.calcSize = .ok n) : n % 4 = 0 ∧ n ≤ 262144 := by
  obtain ⟨hr, rfl⟩ := FirstErr.of_ok (rr_calcSize b ▸ h)
  have := rrRules_nil.mp hr
  have := b.padding.toNat_lt
  omega

theorem bye_size {b : ByeBuilder} {n : Nat} (h : b.calcSize = .ok n) : n % 4 = 0 ∧ n ≤ 262144 := by
  obtain ⟨hr, rfl⟩ := FirstErr.of_ok (bye_calcSize b ▸ h)
  have := byeRules_nil.mp hr
  have := b.padding.toNat_lt
  have := pad4_mod (b.reason.length + 1)
  have := pad4_lt (b.reason.length + 1)
  split <;> omega

theorem app_size {b : AppBuilder} {n : Nat} (h : b.calcSize = .ok n) : n % 4 = 0 ∧ n ≤ 262144 := by
  obtain ⟨hr, rfl⟩ := FirstErr.of_ok (app_calcSize b ▸ h)
  have := appRules_nil.mp hr
  omega

theorem sdes_size {b : SdesBuilder} {n : Nat} (h : b.calcSize = .ok n) : n % 4 = 0 ∧ n ≤ 262144 := by
  obtain ⟨hr, rfl⟩ := FirstErr.of_ok (sdes_calcSize b ▸ h)
  have := sdesRules_nil.mp hr
  have := chunkImages_length_mod4 b.chunks
  omega

theorem unknown_size {b : UnknownBuilder} {n : Nat} (h : b.calcSize = .ok n) : n % 4 = 0 ∧ n ≤ 262144 := by
  obtain ⟨hr, rfl⟩ := FirstErr.of_ok (unknown_calcSize b ▸ h)
  have := unknownRules_nil.mp hr
  omega

/-- any FCI writer, not only the five built-in ones -/
theorem fb_size {b : FbBuilder} {n : Nat} (h : b.calcSize = .ok n) : n % 4 = 0 ∧ n ≤ 262144 := by
  obtain ⟨_, hp, h⟩ := R.of_bind h
  obtain ⟨l, -, h⟩ := R.of_bind (R.of_ite_err h).2
  obtain ⟨hn, h⟩ := R.of_ite_err h
  cases h
  have := pad4_mod l
  have := (checkPadding_ok_iff_mod _).mp hp
  exact ⟨by omega, Nat.le_of_not_lt hn⟩

theorem sizes_bounded :
    (∀ (b : SrBuilder) n, b.calcSize = .ok n → n ≤ 262144) ∧
    (∀ (b : RrBuilder) n, b.calcSize = .ok n → n ≤ 262144) ∧
    (∀ (b : ByeBuilder) n, b.calcSize = .ok n → n ≤ 262144) ∧
    (∀ (b : AppBuilder) n, b.calcSize = .ok n → n ≤ 262144) ∧
    (∀ (b : SdesBuilder) n, b.calcSize = .ok n → n ≤ 262144) ∧
    (∀ (b : UnknownBuilder) n, b.calcSize = .ok n → n ≤ 262144) ∧
    (∀ (b : FbBuilder) n, b.calcSize = .ok n → n ≤ 262144) :=
  ⟨fun _ _ h => (sr_size h).2, fun _ _ h => (rr_size h).2, fun _ _ h => (bye_size h).2,
   fun _ _ h => (app_size h).2, fun _ _ h => (sdes_size h).2, fun _ _ h => (unknown_size h).2,
   fun _ _ h => (fb_size h).2⟩

end Rtcp.Proofs
