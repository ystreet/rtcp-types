/-
  Arithmetic, no model in sight except the SLI section (13/13/6 packing against
  `MacroBlockEntry.encode/decode`; three facts kept apart: `encode` writes the reference image, `decode`
  reads the reference fields, the fields of a packed word are what was packed).  `omega` is slow on
  literal `/` and `%`: remove them first with `Nat.mod_mul_right_div_self`, `Nat.mod_mod_of_dvd`,
  `Nat.div_div_eq_div_mul`.
-/
import Rtcp.Spec.Decode

namespace Rtcp.Proofs
open Rtcp Rtcp.Impl Rtcp.Spec

theorem toUInt8_toNat_lt (n : Nat) (h : n < 256) : n.toUInt8.toNat = n :=
  (UInt8.toNat_ofNat' (n := n)).trans (Nat.mod_eq_of_lt h)

theorem toUInt16_toNat_lt (n : Nat) (h : n < 65536) : n.toUInt16.toNat = n :=
  (UInt16.toNat_ofNat' (n := n)).trans (Nat.mod_eq_of_lt h)

theorem toUInt32_toNat_lt (n : Nat) (h : n < 4294967296) : n.toUInt32.toNat = n :=
  (UInt32.toNat_ofNat' (n := n)).trans (Nat.mod_eq_of_lt h)

theorem pad4_mod (n : Nat) : pad4 n % 4 = 0 := Nat.mul_mod_left _ _
theorem le_pad4 (n : Nat) : n ≤ pad4 n := by unfold pad4; omega
theorem pad4_lt (n : Nat) : pad4 n < n + 4 := by unfold pad4; omega
theorem pad4_of_mod {n : Nat} (h : n % 4 = 0) : pad4 n = n := by unfold pad4; omega
theorem pad4_add_of_mod {m : Nat} (n : Nat) (h : m % 4 = 0) : pad4 (m + n) = m + pad4 n := by
  unfold pad4; omega

theorem pad4_eq (o : Nat) : pad4 o = o + (4 - o % 4) % 4 := by unfold pad4; omega

theorem pad4_eq_add (n : Nat) : ∃ f, pad4 n = n + f := ⟨_, pad4_eq n⟩

theorem pad4_ne {o x : Nat} (h1 : o ≤ x) (h2 : x < pad4 o) : pad4 x ≠ x := by
  unfold pad4 at *; omega

theorem exists_cons4 {l : Bytes} (h : 4 ≤ l.length) :
    ∃ a b c d rest, l = a::b::c::d::rest := by
  match l, h with
  | a::b::c::d::rest, _ => exact ⟨a,b,c,d,rest,rfl⟩
  | [], h | [_], h | [_,_], h | [_,_,_], h => simp at h

theorem testBit_clear_low (n k j : Nat) (hk : k ≤ j) (hj : j < 8) :
    (n / 2 ^ k * 2 ^ k % 256).testBit j = n.testBit j := by
  rw [show (256 : Nat) = 2 ^ 8 from rfl, Nat.testBit_mod_two_pow, Nat.testBit_mul_two_pow,
    Nat.testBit_div_two_pow]
  simp [hk, hj, Nat.sub_add_cancel hk]

theorem filter_testBit_range {b j n : Nat} (hb : b < 2 ^ j) (hjn : j ≤ n) :
    (List.range n).filter (fun k => b.testBit k) = (List.range j).filter (fun k => b.testBit k) := by
  induction hjn with
  | refl => rfl
  | step hn ih =>
    rw [List.range_succ, List.filter_append, ih]
    simp [Nat.testBit_lt_two_pow (Nat.lt_of_lt_of_le hb (Nat.pow_le_pow_right Nat.two_pos hn))]

theorem or_pow_lt {b j : Nat} (hb : b < 2 ^ j) : b ||| 2 ^ j < 2 ^ (j + 1) :=
  Nat.or_lt_two_pow (Nat.lt_trans hb (Nat.pow_lt_pow_succ Nat.one_lt_two)) (Nat.pow_lt_pow_succ Nat.one_lt_two)

theorem digits256 (x : Nat) (h : x < 4294967296) :
    x / 16777216 % 256 * 16777216 + x / 65536 % 256 * 65536 + x / 256 % 256 * 256 + x % 256 = x := by
  rw [show x / 16777216 = x / 256 / 256 / 256 by simp [Nat.div_div_eq_div_mul],
    show x / 65536 = x / 256 / 256 by simp [Nat.div_div_eq_div_mul]]
  omega

theorem be32_nat (x : UInt32) : ∃ a b c d : UInt8, be32 x = [a, b, c, d] ∧
    a.toNat * 16777216 + b.toNat * 65536 + c.toNat * 256 + d.toNat = x.toNat := by
  refine ⟨_, _, _, _, rfl, ?_⟩
  simp only [toUInt8_toNat_lt _ (Nat.mod_lt _ (by decide : 0 < 256))]
  exact digits256 _ x.toNat_lt

theorem digits16 {x : Nat} (h : x < 65536) : (x / 256).toUInt8.toNat * 256 + (x % 256).toUInt8.toNat = x := by
  rw [toUInt8_toNat_lt _ (Nat.div_lt_of_lt_mul h), toUInt8_toNat_lt _ (Nat.mod_lt _ (by decide))]
  exact Nat.div_add_mod' x 256

theorem be16_nat (x : UInt16) : ∃ a b : UInt8, be16 x = [a, b] ∧ a.toNat * 256 + b.toNat = x.toNat := by
  refine ⟨_, _, rfl, ?_⟩
  rw [Nat.mod_eq_of_lt (Nat.div_lt_of_lt_mul (show x.toNat < 256 * 256 from x.toNat_lt))]
  exact digits16 x.toNat_lt

/-! SLI entry: First (13 bits) · Number (13) · PictureID (6); 524288 = 2^19, 8192 = 2^13, 64 = 2^6 -/

theorem sli_unpack_pack {s c p x : Nat} (hs : s < 8192) (hc : c < 8192) (hp : p < 64)
    (hx : x = s * 524288 + c * 64 + p) :
    x < 4294967296 ∧ x / 524288 = s ∧ x / 64 % 8192 = c ∧ x % 64 = p := by omega

/-- the big-endian bytes of a packed word, in the form `MacroBlockEntry.encode` computes them -/
theorem sli_pack_bytes {s c p x : Nat} (hs : s < 8192) (hc : c < 8192) (hp : p < 64)
    (hx : x = s * 524288 + c * 64 + p) :
    x / 16777216 % 256 = s / 32 ∧ x / 65536 % 256 = s % 32 * 8 + c / 1024 ∧
    x / 256 % 256 = c / 4 % 256 ∧ x % 256 = c % 4 * 64 + p := by omega

theorem sli_decode_fields (a b c e : UInt8) {x : Nat}
    (hx : x = a.toNat * 16777216 + b.toNat * 65536 + c.toNat * 256 + e.toNat) :
    MacroBlockEntry.decode a b c e = ⟨(x / 524288).toUInt16, (x / 64 % 8192).toUInt16, (x % 64).toUInt8⟩ := by
  have := a.toNat_lt; have := b.toNat_lt; have := c.toNat_lt; have := e.toNat_lt
  subst hx
  unfold MacroBlockEntry.decode
  congr 2 <;> omega

/-- no range hypothesis: fields wider than 13/13/6 bits are cut by both -/
theorem sli_encode_eq (e : MacroBlockEntry) : e.encode = sliEntryImage e := by
  obtain ⟨s, c, p⟩ := e
  have hs : s.toNat % 8192 < 8192 := Nat.mod_lt _ (by decide)
  have hc : c.toNat % 8192 < 8192 := Nat.mod_lt _ (by decide)
  have hp : p.toNat % 64 < 64 := Nat.mod_lt _ (by decide)
  obtain ⟨h0, h1, h2, h3⟩ := sli_pack_bytes hs hc hp rfl
  rw [MacroBlockEntry.encode, sliEntryImage, be32, toUInt32_toNat_lt _ (sli_unpack_pack hs hc hp rfl).1,
    h0, h1, h2, h3,
    Nat.mod_mul_right_div_self s.toNat 32 256, Nat.mod_mul_right_div_self c.toNat 1024 8,
    Nat.mod_mul_right_div_self c.toNat 4 2048, Nat.mod_mod_of_dvd (c.toNat / 4) (by decide : 256 ∣ 2048),
    Nat.mod_mod_of_dvd s.toNat (by decide : 32 ∣ 8192), Nat.mod_mod_of_dvd c.toNat (by decide : 4 ∣ 8192)]

theorem sliDecode_be32 (x : UInt32) (rest : Bytes) :
    sliDecode (be32 x ++ rest) = (x.toNat / 524288, x.toNat / 64 % 8192, x.toNat % 64) :: sliDecode rest := by
  obtain ⟨a, b, c, d, hb, hx⟩ := be32_nat x
  rw [hb, ← hx]; rfl

theorem sliDecode_entry (e : MacroBlockEntry) (rest : Bytes)
    (h : e.start.toNat < 8192 ∧ e.count.toNat < 8192 ∧ e.pictureId.toNat < 64) :
    sliDecode (sliEntryImage e ++ rest) = (e.start.toNat, e.count.toNat, e.pictureId.toNat) :: sliDecode rest := by
  obtain ⟨hs, hc, hp⟩ := h
  obtain ⟨hlt, h1, h2, h3⟩ := sli_unpack_pack hs hc hp rfl
  rw [sliEntryImage, sliDecode_be32, Nat.mod_eq_of_lt hs, Nat.mod_eq_of_lt hc, Nat.mod_eq_of_lt hp,
    toUInt32_toNat_lt _ hlt, h1, h2, h3]

/-- sli.rs `decode(encode(e)) == e`, for every entry within the 13/13/6-bit ranges -/
theorem sli_decode_encode (e : MacroBlockEntry)
    (h : e.start.toNat < 8192 ∧ e.count.toNat < 8192 ∧ e.pictureId.toNat < 64) :
    (match e.encode with
      | [a, b, c, d] => some (MacroBlockEntry.decode a b c d)
      | _ => none) = some e := by
  obtain ⟨hs, hc, hp⟩ := h
  obtain ⟨hlt, h1, h2, h3⟩ := sli_unpack_pack hs hc hp rfl
  obtain ⟨a, b, c, d, hb, hx⟩ := be32_nat
    (e.start.toNat * 524288 + e.count.toNat * 64 + e.pictureId.toNat).toUInt32
  rw [toUInt32_toNat_lt _ hlt] at hx
  rw [sli_encode_eq, sliEntryImage, Nat.mod_eq_of_lt hs, Nat.mod_eq_of_lt hc, Nat.mod_eq_of_lt hp, hb]
  simp only [sli_decode_fields a b c d hx.symm, h1, h2, h3]
  simp only [UInt16.ofNat_toNat, UInt8.ofNat_toNat]

end Rtcp.Proofs
