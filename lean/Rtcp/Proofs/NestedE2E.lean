/-
  C14 through nesting.  A node writes with the compound writer over its members' writers, so the
  writer contract goes through the tree by `compound_refines` (`tree_refines`); an accepted node has
  accepted every member (`sizeLoop_ok_iff`), hence every leaf (`tree_leaves_accepted`); the read side is
  that of the flat statement, on the leaves.
-/
import Rtcp.Props.Trees
import Rtcp.Proofs.CompoundE2E

namespace Rtcp.Proofs
open Rtcp Rtcp.Impl Rtcp.Spec Rtcp.Props

theorem toWriters_eq_map (ts : List Tree) : Tree.toWriters ts = ts.map Tree.toWriter := by
  induction ts with
  | nil => rfl
  | cons t ts ih => simp [Tree.toWriters, ih]

theorem leavesL_eq (ts : List Tree) : Tree.leavesL ts = (ts.map Tree.leaves).flatten := by
  induction ts with
  | nil => rfl
  | cons t ts ih => simp [Tree.leavesL, ih]

theorem node_image (ts : List Tree) : (Tree.node ts).image = (ts.map Tree.image).flatten := by
  simp only [Tree.image, Tree.leaves, leavesL_eq, List.map_flatten, List.map_map, List.flatten_flatten]
  rfl

theorem leaf_image (m : Member) : (Tree.leaf m).image = m.image := List.append_nil _

mutual
theorem tree_refines : ∀ (t : Tree), (∀ m ∈ t.leaves, m.Inv) → Refines t.toWriter t.image
  | .leaf m, h => by
    rw [Tree.toWriter, leaf_image]
    exact member_refines m (h m (List.mem_singleton_self m))
  | .node ts, h => by
    rw [Tree.toWriter, node_image]
    exact compound_refines _ _ (trees_refine ts h)
theorem trees_refine : ∀ (ts : List Tree), (∀ m ∈ Tree.leavesL ts, m.Inv) →
    AllRefine (Tree.toWriters ts) (ts.map Tree.image)
  | [], _ => Pointwise.nil
  | t :: ts, h => Pointwise.cons_iff.mpr
    ⟨tree_refines t fun m hm => h m (List.mem_append_left _ hm),
      trees_refine ts fun m hm => h m (List.mem_append_right _ hm)⟩
end

mutual
theorem tree_leaves_accepted : ∀ (t : Tree), (∀ m ∈ t.leaves, m.Inv) → ∀ k, t.toWriter.calcSize = .ok k →
    ∀ m ∈ t.leaves, ∃ k', m.toWriter.calcSize = .ok k'
  | .leaf _, _, k, hk => fun _ hm => List.eq_of_mem_singleton hm ▸ ⟨k, hk⟩
  | .node ts, h, k, hk => trees_leaves_accepted ts h ((sizeLoop_ok_iff _ (Tree.toWriters ts) 0 0 k).mp hk).1
theorem trees_leaves_accepted : ∀ (ts : List Tree), (∀ m ∈ Tree.leavesL ts, m.Inv) →
    (∀ w ∈ Tree.toWriters ts, ∃ k, w.calcSize = .ok k) → ∀ m ∈ Tree.leavesL ts, ∃ k', m.toWriter.calcSize = .ok k'
  | [], _, _ => fun _ hm => nomatch hm
  | t :: ts, h, hacc => fun m hm =>
    have ⟨⟨k, hk⟩, hacc⟩ := List.forall_mem_cons.mp hacc
    (List.mem_append.mp hm).elim
      (tree_leaves_accepted t (fun m hm => h m (List.mem_append_left _ hm)) k hk m)
      (trees_leaves_accepted ts (fun m hm => h m (List.mem_append_right _ hm)) hacc m)
end

theorem nested_end_to_end {ε : Type} (t : Tree) (hinv : ∀ m ∈ t.leaves, m.Inv) (hne : t.leaves ≠ []) (n : Nat)
    (hs : t.toWriter.calcSize = .ok n) (buf : Bytes) (hb : n ≤ buf.length)
    (fuel : Nat) (hf : t.leaves.length < fuel) :
    t.toWriter.writeInto buf = (t.image ++ buf.drop n, .ok n) ∧
    t.image.length = n ∧
    Compound.parse t.image = .ok ⟨t.image, 0, false⟩ ∧
    (∀ m ∈ t.leaves, ∃ p, Packet.parse m.image = .ok p ∧ p.kind? = some m.kind) ∧
    ∃ items c', (Compound.collect fuel ⟨t.image, 0, false⟩ [] : R ε _) = .ok (items, true, c') ∧
      items.map (·.1) = t.leaves.map (fun m => Packet.parse m.image) ∧ items.length = t.leaves.length :=
  have href := tree_refines t hinv
  ⟨Props.writeInto_ok href hs buf hb, (href.exact n hs).1,
    members_parse_back t.leaves hne (fun m hm => ⟨hinv m hm, tree_leaves_accepted t hinv n hs m hm⟩) fuel hf⟩

end Rtcp.Proofs
