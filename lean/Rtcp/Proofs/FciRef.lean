/-
  The reference codecs of Spec/Wire.lean and Spec/Decode.lean against each other, no model in sight:
  decode-after-encode for FIR, SLI and RPSI (C05, C07), and the greedy NACK encoder: its words decode to
  the list they were made from, have increasing PIDs, and no list of words with the same decoding is
  shorter.
-/
import Rtcp.Spec.All
import Rtcp.Proofs.Rules

namespace Rtcp.Proofs
open Rtcp Rtcp.Impl Rtcp.Spec

theorem words64_short {l : Bytes} (h : l.length < 8) : words64 l = [] := by
  unfold words64
  split
  · simp only [List.length_cons] at h; omega
  · rfl

theorem words32_short {l : Bytes} (h : l.length < 4) : words32 l = [] := by
  unfold words32
  split
  · simp only [List.length_cons] at h; omega
  · rfl

/-- the fall-through case of a function matching on `a :: b :: c :: e :: _` -/
theorem lt4_of_no_word {l : Bytes} (hl : ∀ a b c e rest, l = a :: b :: c :: e :: rest → False) : l.length < 4 :=
  Nat.lt_of_not_le fun h => by obtain ⟨a, b, c, e, rest, hr⟩ := exists_cons4 h; exact hl _ _ _ _ _ hr

theorem lt8_of_no_word {l : Bytes}
    (hl : ∀ a b c d e f g h rest, l = a :: b :: c :: d :: e :: f :: g :: h :: rest → False) : l.length < 8 :=
  Nat.lt_of_not_le fun h => by
    obtain ⟨a, b, c, d, r, rfl⟩ := exists_cons4 (Nat.le_trans (by decide) h)
    obtain ⟨e, f, g, k, rest, rfl⟩ := exists_cons4 (l := r) (by simp only [List.length_cons] at h; omega)
    exact hl _ _ _ _ _ _ _ _ _ rfl

theorem words32_length_le (d : Bytes) : 4 * (words32 d).length ≤ d.length := by
  fun_induction words32 d with
  | case1 a b c e rest ih => simp only [List.length_cons]; omega
  | case2 l hl => exact Nat.zero_le _

theorem words64_length_le (d : Bytes) : 8 * (words64 d).length ≤ d.length := by
  fun_induction words64 d with
  | case1 a b c e f g h k rest ih => simp only [List.length_cons]; omega
  | case2 l hl => exact Nat.zero_le _

def byteBits (b : UInt8) : List Bool := (List.range 8).map (fun i => b.toNat.testBit (7 - i))

theorem byteBits_length (b : UInt8) : (byteBits b).length = 8 := by simp [byteBits]

theorem bitsOf_nil : bitsOf [] = [] := rfl
theorem bitsOf_cons (x : UInt8) (xs : Bytes) : bitsOf (x :: xs) = byteBits x ++ bitsOf xs := by
  simp [bitsOf, byteBits]

theorem bitsOf_append (xs ys : Bytes) : bitsOf (xs ++ ys) = bitsOf xs ++ bitsOf ys := by
  simp [bitsOf]

theorem bitsOf_length (xs : Bytes) : (bitsOf xs).length = 8 * xs.length :=
  length_flatten_map byteBits_length xs

theorem bitsOf_take (xs : Bytes) (m : Nat) : bitsOf (xs.take m) = (bitsOf xs).take (8 * m) := by
  induction xs generalizing m with
  | nil => rw [List.take_nil, bitsOf_nil, List.take_nil]
  | cons x xs ih =>
    cases m with
    | zero => rfl
    | succ m =>
      have e : 8 * (m + 1) = (byteBits x).length + 8 * m := by rw [byteBits_length, Nat.mul_succ, Nat.add_comm]
      rw [List.take_succ_cons, bitsOf_cons, bitsOf_cons, ih, e, List.take_length_add_append]

/-- cutting `q` whole octets and then `r` bits from the end is cutting `8 q + r` bits -/
theorem bitsOf_take_take (xs : Bytes) (q r : Nat) :
    (bitsOf (xs.take (xs.length - q))).take (8 * (xs.length - q) - r)
      = (bitsOf xs).take (8 * xs.length - (8 * q + r)) := by
  rw [bitsOf_take, List.take_take, Nat.min_eq_left (Nat.sub_le _ _), Nat.mul_sub, Nat.sub_sub]

/-- the RPSI builder's `buf[idx - 1] &= !bitmask` keeps the leading `8 - k` bits of the last byte -/
theorem byteBits_clear_low (l : UInt8) (k : Nat) :
    (byteBits (l.toNat / 2 ^ k * 2 ^ k % 256).toUInt8).take (8 - k) = (byteBits l).take (8 - k) := by
  rw [byteBits, byteBits, ← List.map_take, ← List.map_take, List.take_range, Nat.min_eq_left (Nat.sub_le 8 k),
    toUInt8_toNat_lt _ (Nat.mod_lt _ (by decide))]
  refine List.map_congr_left fun i hi => ?_
  have := List.mem_range.mp hi
  exact testBit_clear_low _ _ _ (by omega) (by omega)

theorem bitsOf_take_clear_low (init : Bytes) (l : UInt8) (k : Nat) (hk : k ≤ 8) :
    (bitsOf (init ++ [(l.toNat / 2 ^ k * 2 ^ k % 256).toUInt8])).take (8 * (init.length + 1) - k)
      = (bitsOf (init ++ [l])).take (8 * (init.length + 1) - k) := by
  have e : 8 * (init.length + 1) - k = (bitsOf init).length + (8 - k) := by
    rw [bitsOf_length, Nat.mul_succ, Nat.add_sub_assoc hk]
  rw [e, bitsOf_append, bitsOf_append, List.take_length_add_append, List.take_length_add_append,
    bitsOf_cons, bitsOf_cons, bitsOf_nil, List.append_nil, List.append_nil, byteBits_clear_low l k]

theorem firDecode_entry (e : UInt32 × UInt8) (rest : Bytes) :
    firDecode (firEntryImage e ++ rest) = (e.1.toNat, e.2.toNat) :: firDecode rest := by
  obtain ⟨a, b, c, d, hb, hx⟩ := be32_nat e.1
  rw [firEntryImage, hb, ← hx]; rfl

theorem fir_roundtrip (entries : List (UInt32 × UInt8)) :
    firDecode (firImage ⟨entries⟩) = entries.map (fun (s, q) => (s.toNat, q.toNat)) := by
  induction entries with
  | nil => rfl
  | cons e es ih =>
    rw [firImage, List.map_cons, List.flatten_cons, firDecode_entry, List.map_cons]
    exact congrArg _ ih

theorem sli_roundtrip (es : List MacroBlockEntry)
    (h : ∀ e ∈ es, e.start.toNat < 8192 ∧ e.count.toNat < 8192 ∧ e.pictureId.toNat < 64) :
    sliDecode (sliImage ⟨es⟩) = es.map (fun e => (e.start.toNat, e.count.toNat, e.pictureId.toNat)) := by
  induction es with
  | nil => rfl
  | cons e es ih =>
    rw [List.forall_mem_cons] at h
    rw [sliImage, List.map_cons, List.flatten_cons, sliDecode_entry e _ h.1, List.map_cons]
    exact congrArg _ (ih h.2)

theorem rpsi_roundtrip (b : RpsiBuilder) (h : rpsiRules b = []) :
    rpsiDecode (rpsiImage b) = some (b.payloadType.toNat, rpsiBits b.nativeBitString b.nativeBitOverrun.toNat) := by
  obtain ⟨hpt, hk, -⟩ := rpsiRules_nil.mp h
  obtain ⟨pt, data, k⟩ := b
  simp only at hpt hk
  have hz : pad4 (2 + data.length) - data.length - 2 ≤ 3 := by have := pad4_lt (2 + data.length); omega
  simp only [rpsiImage, rpsiDecode, List.cons_append, List.nil_append, rpsiBits]
  generalize pad4 (2 + data.length) - data.length - 2 = z at hz ⊢
  -- `PB` counts the `8 z` bits of the zero octets first; without them, `k` bits of the last octet are cut
  rw [toUInt8_toNat_lt _ (Nat.mod_lt _ (by decide)), Nat.mod_eq_of_lt (by omega : 8 * z + k.toNat < 256),
    Nat.mod_eq_of_lt (by omega : pt.toNat < 128), ← bitsOf_take_take, List.length_append, List.length_replicate,
    Nat.add_sub_cancel, List.take_left]
  congr 2
  rcases List.eq_nil_or_concat data with rfl | ⟨init, l, rfl⟩
  · rfl
  · rw [List.concat_eq_append, List.getLast?_append, List.getLast?_singleton, Option.some_or, List.dropLast_concat]
    simp only [List.length_append, List.length_singleton]
    exact bitsOf_take_clear_low init l k.toNat hk

theorem nackDecode_cons4 (a b c e : UInt8) (rest : Bytes) :
    nackDecode (a :: b :: c :: e :: rest)
      = NackWord.decode ⟨a.toNat * 256 + b.toNat, c.toNat * 256 + e.toNat⟩ ++ nackDecode rest := rfl

theorem nackWord_decode_length_le (w : NackWord) : w.decode.length ≤ 17 := by
  have := List.length_filter_le (fun k => w.blp.testBit k) (List.range 16)
  simp only [NackWord.decode, List.length_cons, List.length_map, List.length_range] at this ⊢
  omega

theorem nackDecode_length_le (d : Bytes) : (nackDecode d).length ≤ 17 * (d.length / 4) := by
  fun_induction words32 d with  -- `nackDecode` is a map over `words32`
  | case1 a b c e rest ih =>
    rw [nackDecode_cons4, List.length_append]
    show _ ≤ 17 * ((rest.length + 4) / 4)
    rw [Nat.add_div_right _ (by decide), Nat.mul_succ, Nat.add_comm]
    exact Nat.add_le_add ih (nackWord_decode_length_le _)
  | case2 l hl =>
    rw [nackDecode, words32_short (lt4_of_no_word hl)]
    exact Nat.zero_le _

/-- setting a bit above all bits of the mask appends its sequence number -/
theorem nackWord_decode_or (pid blp j : Nat) (hb : blp < 2 ^ j) (hj : j < 16) :
    NackWord.decode ⟨pid, blp ||| 2 ^ j⟩ = NackWord.decode ⟨pid, blp⟩ ++ [(pid + j + 1) % 65536] := by
  have hlow : (List.range j).filter (fun k => (blp ||| 2 ^ j).testBit k)
      = (List.range j).filter (fun k => blp.testBit k) :=
    List.filter_congr fun k hk => by
      rw [Nat.testBit_or, Nat.testBit_two_pow_of_ne (Nat.ne_of_gt (List.mem_range.mp hk)), Bool.or_false]
  simp only [NackWord.decode]
  rw [filter_testBit_range (or_pow_lt hb) hj, filter_testBit_range hb (Nat.le_of_lt hj),
    List.range_succ, List.filter_append, hlow]
  simp [Nat.testBit_two_pow_self]

theorem nackWord_decode_zero (pid : Nat) : NackWord.decode ⟨pid, 0⟩ = [pid] := by
  simp [NackWord.decode]

/-- The words of the greedy encoder decode to the list they were made from.  The invariant: the word
    under construction has used up `d` mask positions, i.e. `blp` has no bit from `d` on and
    everything still to come lies above `pid + d`. -/
theorem nackEncodeFrom_decode (pid blp : Nat) (rest : List Nat) (d : Nat) (hb : blp < 2 ^ d)
    (hp : ((pid + d) :: rest).Pairwise (· < ·)) (hlt : ∀ s ∈ rest, s < 65536) :
    ((nackEncodeFrom pid blp rest).map NackWord.decode).flatten = NackWord.decode ⟨pid, blp⟩ ++ rest := by
  -- the branches of `nackEncodeFrom`: end of input; `s` beyond reach, a new word; `s` within reach, a
  -- bit of the current word; `s ≤ pid`, excluded by the order
  fun_induction nackEncodeFrom pid blp rest generalizing d with
  | case1 => simp
  | case2 pid blp s rest _ ih =>
    rw [List.map_cons, List.flatten_cons, ih 0 (Nat.two_pow_pos _) hp.of_cons
      (fun x hx => hlt x (List.mem_cons_of_mem _ hx)), nackWord_decode_zero]
    rfl
  | case3 pid blp s rest h16 hs ih =>
    obtain ⟨j, rfl⟩ := Nat.exists_eq_add_of_lt hs
    have hd : pid + d < pid + j + 1 := List.rel_of_pairwise_cons hp (List.mem_cons_self ..)
    have e : pid + j + 1 - pid = j + 1 := by rw [Nat.add_assoc, Nat.add_sub_cancel_left]
    rw [e] at h16
    rw [e, Nat.add_sub_cancel] at ih ⊢
    have hb' : blp < 2 ^ j := Nat.lt_of_lt_of_le hb
      (Nat.pow_le_pow_right Nat.two_pos (Nat.le_of_lt_succ (Nat.lt_of_add_lt_add_left hd)))
    rw [ih (j + 1) (or_pow_lt hb') hp.of_cons (fun x hx => hlt x (List.mem_cons_of_mem _ hx)),
      nackWord_decode_or pid blp j hb' (Nat.le_of_not_lt h16), Nat.mod_eq_of_lt (hlt _ (List.mem_cons_self ..)),
      List.append_assoc]
    rfl
  | case4 pid blp s rest _ hs =>
    exact absurd (Nat.lt_of_le_of_lt (Nat.le_add_right pid d)
      (List.rel_of_pairwise_cons hp (List.mem_cons_self ..))) hs

theorem nackEncode_decode (l : List Nat) (h : l.Pairwise (· < ·)) (hb : ∀ s ∈ l, s < 65536) :
    ((nackEncode l).map NackWord.decode).flatten = l := by
  cases l with
  | nil => rfl
  | cons s rest =>
    exact (nackEncodeFrom_decode s 0 rest 0 (Nat.two_pow_pos _) h
      fun x hx => hb x (List.mem_cons_of_mem _ hx)).trans (by rw [nackWord_decode_zero]; rfl)

/-- the PIDs are picked from the input, in order: so they are bounded, and increasing, when it is -/
theorem nackEncodeFrom_pids (pid blp : Nat) (rest : List Nat) :
    ((nackEncodeFrom pid blp rest).map (·.pid)).Sublist (pid :: rest) := by
  fun_induction nackEncodeFrom pid blp rest with
  | case1 => exact List.Sublist.refl _
  | case2 _ _ _ _ _ ih => exact ih.cons_cons _
  | case3 _ _ s _ _ _ ih | case4 _ _ s _ _ _ ih => exact ih.trans ((List.sublist_cons_self s _).cons_cons _)

theorem nackEncode_pids : ∀ l : List Nat, ((nackEncode l).map (·.pid)).Sublist l
  | [] => List.Sublist.refl _
  | s :: rest => nackEncodeFrom_pids s 0 rest

/-- `decode` reads the low 16 bits of the mask only, so nothing is lost when `nackWordImage`
    truncates it: no bound on the masks of the encoder is needed. -/
theorem nackWord_decode_mod (pid blp : Nat) :
    NackWord.decode ⟨pid, blp % 65536⟩ = NackWord.decode ⟨pid, blp⟩ := by
  have : (List.range 16).filter (fun k => (blp % 65536).testBit k)
      = (List.range 16).filter (fun k => blp.testBit k) :=
    List.filter_congr fun k hk => by
      rw [show 65536 = 2 ^ 16 from rfl, Nat.testBit_mod_two_pow, decide_eq_true (List.mem_range.mp hk),
        Bool.true_and]
  simp only [NackWord.decode, this]

theorem nackDecode_word (w : NackWord) (rest : Bytes) (h : w.pid < 65536) :
    nackDecode (nackWordImage w ++ rest) = w.decode ++ nackDecode rest := by
  obtain ⟨a, b, hab, hp⟩ := be16_nat w.pid.toUInt16
  obtain ⟨c, e, hce, hb⟩ := be16_nat w.blp.toUInt16
  rw [toUInt16_toNat_lt _ h] at hp
  rw [nackWordImage, hab, hce]
  show nackDecode (a :: b :: c :: e :: rest) = _
  rw [nackDecode_cons4, hp, hb]
  exact congrArg (· ++ _) (nackWord_decode_mod w.pid w.blp)

theorem nackDecode_image (ws : List NackWord) (h : ∀ w ∈ ws, w.pid < 65536) :
    nackDecode ((ws.map nackWordImage).flatten) = (ws.map NackWord.decode).flatten := by
  induction ws with
  | nil => rfl
  | cons w ws ih =>
    rw [List.forall_mem_cons] at h
    rw [List.map_cons, List.flatten_cons, nackDecode_word w _ h.1, ih h.2, List.map_cons, List.flatten_cons]

theorem nack_roundtrip (seqs : List UInt16) (h : seqs.Pairwise (· < ·)) :
    nackDecode (nackImage ⟨seqs⟩) = seqs.map (·.toNat) := by
  have hp : (seqs.map (·.toNat)).Pairwise (· < ·) :=
    List.pairwise_map.mpr (h.imp UInt16.lt_iff_toNat_lt.mp)
  have hb : ∀ s ∈ seqs.map (·.toNat), s < 65536 := List.forall_mem_map.mpr fun x _ => x.toNat_lt
  unfold nackImage
  rw [nackDecode_image _ fun w hw => hb _ ((nackEncode_pids _).subset (List.mem_map_of_mem hw)),
    nackEncode_decode _ hp hb]

/-- one word, then the encoding of what lies beyond its reach -/
theorem nackEncodeFrom_length (pid blp : Nat) (rest : List Nat) :
    (nackEncodeFrom pid blp rest).length
      = 1 + (nackEncode (rest.dropWhile (fun s => decide (s - pid ≤ 16)))).length := by
  fun_induction nackEncodeFrom pid blp rest with
  | case1 => rfl
  | case2 pid blp s rest h =>
    rw [List.dropWhile_cons, if_neg (mt of_decide_eq_true (Nat.not_le_of_gt h)), nackEncode,
      List.length_cons, Nat.add_comm]
  | case3 pid blp s rest h _ ih | case4 pid blp s rest h _ ih =>
    rw [List.dropWhile_cons, if_pos (decide_eq_true (Nat.le_of_not_gt h))]
    exact ih

theorem nackWord_decode_mem_le (w : NackWord) (x : Nat) (hx : x ∈ w.decode) : x ≤ w.pid + 16 := by
  rcases List.mem_cons.mp hx with rfl | h
  · exact Nat.le_add_right _ _
  · obtain ⟨k, hk, rfl⟩ := List.mem_map.mp h
    have hk := List.mem_range.mp (List.mem_filter.mp hk).1
    exact Nat.le_trans (Nat.mod_le _ _) (by omega)

/-- Greedy stays ahead: to encode any part `l'` of what `ws` decodes to, the greedy encoder needs no
    more words than `ws` has.  If `l'` begins inside `w`'s share at `s ≥ w.pid`, the first greedy word
    reaches up to `s + 16`, hence over the rest of `w`'s share, and what remains is part of the
    share of the other words. -/
theorem nack_minimal_aux (ws : List NackWord) (hp : ((ws.map NackWord.decode).flatten).Pairwise (· < ·))
    (l' : List Nat) (hs : l'.Sublist (ws.map NackWord.decode).flatten) :
    (nackEncode l').length ≤ ws.length := by
  induction ws generalizing l' with
  | nil => rw [List.sublist_nil.mp hs]; exact Nat.le_refl _
  | cons w ws ih =>
    obtain ⟨hpw, hp1, _⟩ := List.pairwise_append.mp hp
    obtain ⟨l₁, l₂, rfl, h₁, h₂⟩ := List.sublist_append_iff.mp hs
    cases l₁ with
    | nil => exact Nat.le_succ_of_le (ih hp1 _ h₂)
    | cons s A =>
      have hpid : w.pid ≤ s := by
        rcases List.mem_cons.mp (h₁.subset (List.mem_cons_self ..)) with h | h
        · exact Nat.le_of_eq h.symm
        · exact Nat.le_of_lt (List.rel_of_pairwise_cons hpw h)
      have hA : ∀ x ∈ A, decide (x - s ≤ 16) = true := fun x hx =>
        decide_eq_true (Nat.sub_le_iff_le_add'.mpr (Nat.le_trans
          (nackWord_decode_mem_le w x (h₁.subset (List.mem_cons_of_mem _ hx))) (Nat.add_le_add_right hpid 16)))
      rw [List.cons_append, nackEncode, nackEncodeFrom_length, List.dropWhile_append_of_pos hA,
        List.length_cons, Nat.add_comm]
      exact Nat.succ_le_succ (ih hp1 _ ((List.dropWhile_sublist _).trans h₂))

theorem nack_minimal (l : List Nat) (h : l.Pairwise (· < ·)) (hb : ∀ s ∈ l, s < 65536)
    (ws : List NackWord) (hd : (ws.map NackWord.decode).flatten = l) :
    (nackEncode l).length ≤ ws.length := by
  subst hd
  exact nack_minimal_aux ws h _ (List.Sublist.refl _)

end Rtcp.Proofs
