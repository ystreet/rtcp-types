/-
  The fixed-layout writers: `x_fills` says that `writeUnchecked` turns any buffer of the size of the
  image into the image (`Fills`).  All a writer asks for is a count that fits its five bits (and, for
  APP, a name of at most four octets); whatever else the rules forbid, code and image treat alike.
  With `x_calcSize` (Rules.lean) and the length of the image this is the writer contract
  (`FirstErr.refines`).
-/
import Rtcp.Spec.All
import Rtcp.Proofs.BufLemmas

namespace Rtcp.Proofs
open Rtcp Rtcp.Impl Rtcp.Spec

theorem rb_fills (b : ReportBlockBuilder) : Fills b.writeUnchecked (rbImage b) := by
  intro buf hl
  rw [rbImage_length] at hl ⊢
  rw [show buf = [] ++ buf.drop 0 from rfl]
  unfold ReportBlockBuilder.writeUnchecked
  simp (disch := buf_side) only [copyAt_done, setByte_mid_done, copyFrom_done, R.ok_bind]
  -- what was written is `rbImage b` up to the bracketing of `++`, every piece being a list of known length
  rfl

theorem rbWrite_seq : SeqLoop rbWrite rbImage where
  nil _ _ := rfl
  cons rb rbs done buf i hi hr := by
    simp only [rbWrite, rbImage_length] at hr ⊢
    rw [withRange_done ⟨hi, by omega, hr⟩ (rb_fills rb _ (by simp; omega)), rbImage_length]

theorem sr_fills (b : SrBuilder) (hc : b.reportBlocks.length ≤ 31) : Fills b.writeUnchecked (srImage b) := by
  intro buf hl
  have hn := hl.trans (srImage_length b)
  unfold SrBuilder.writeUnchecked
  rw [writeHeader_count _ _ _ (by omega) hc]
  simp (disch := buf_side) only [copyAt_done, seq_write rbWrite_seq, rbImages_length, writePadding_done,
    R.ok_bind]
  exact packet_done hl (by omega) (by simp only [List.append_assoc])

theorem rr_fills (b : RrBuilder) (hc : b.reportBlocks.length ≤ 31) : Fills b.writeUnchecked (rrImage b) := by
  intro buf hl
  have hn := hl.trans (rrImage_length b)
  unfold RrBuilder.writeUnchecked
  rw [writeHeader_count _ _ _ (by omega) hc]
  simp (disch := buf_side) only [copyAt_done, seq_write rbWrite_seq, rbImages_length, writePadding_done,
    R.ok_bind]
  exact packet_done hl (by omega) (by simp only [List.append_assoc])

theorem app_fills (b : AppBuilder) (hs : b.subtype.toNat ≤ 31) (hc : b.name.length ≤ 4) :
    Fills b.writeUnchecked (appImage b) := by
  intro buf hl
  have hn := hl.trans (appImage_length b hc)
  unfold AppBuilder.writeUnchecked
  rw [writeHeader_eq _ _ _ _ (by omega) hs]
  simp (disch := buf_side) only [copyAt_done, fillAt_if_done, writePadding_done, R.ok_bind, R.pure_eq]
  exact packet_done hl (by omega)
    (by simp only [List.append_assoc, Nat.sub_add_eq, Nat.reduceSub])

theorem unknown_fills (b : UnknownBuilder) (hc : b.count.toNat ≤ 31) :
    Fills b.writeUnchecked (unknownImage b) := by
  intro buf hl
  have hn := hl.trans (packet_length ..)
  unfold UnknownBuilder.writeUnchecked
  rw [writeHeader_eq _ _ _ _ (by omega) hc]
  simp (disch := buf_side) only [setByte_header_pt, copyAt_done, writePadding_done, R.ok_bind]
  exact packet_done hl (by omega) rfl

theorem custom_fills (b : CustomBuilder) : Fills b.writeUnchecked (customImage b) := by
  intro buf hl
  have hn := hl.trans (customImage_length b)
  have hbe := bodyEnd_eq b
  unfold CustomBuilder.writeUnchecked
  rw [writeHeader_eq _ _ _ _ (by omega) (by simp)]
  simp (disch := buf_side) only [copyAt_done, fillAt_done, writePadding_done, R.ok_bind]
  exact packet_done hl (by omega)
    (by simp only [List.append_assoc, hbe, Nat.add_sub_cancel_left]; rfl)

theorem writeSources_seq : SeqLoop ByeBuilder.writeSources be32 where
  nil _ _ := rfl
  cons s ss done buf i hi hr := by
    simp only [ByeBuilder.writeSources, be32_length] at hr ⊢
    rw [copyAt_done ⟨hi, by simp, hr⟩]

theorem bye_fills (b : ByeBuilder) (hc : b.sources.length ≤ 31) : Fills b.writeUnchecked (byeImage b) := by
  intro buf hl
  have hn := hl.trans (byeImage_length b)
  unfold ByeBuilder.writeUnchecked
  rw [writeHeader_count _ _ _ (by omega) hc]
  -- the reason is optional; `↓reduceIte` drops the branch not taken before the run enters it
  by_cases hre : b.reason = []
  · rw [if_pos hre] at hn
    simp (disch := buf_side) only [hre, List.isEmpty_nil, Bool.not_true, Bool.false_eq_true, ↓reduceIte,
      seq_write writeSources_seq, srcImages_length, writePadding_done, R.ok_bind, R.pure_eq]
    exact packet_done hl (by omega) (by simp [hre])
  · have hie : b.reason.isEmpty = false := by simpa using hre
    -- `f` zero bytes after the reason; the code pads the offset, the image the reason: the same,
    -- the sources ending at a multiple of 4
    obtain ⟨f, hf⟩ := pad4_eq_add (b.reason.length + 1)
    have hp4 : pad4 (4 + 4 * b.sources.length + 1 + b.reason.length)
        = 4 + 4 * b.sources.length + 1 + b.reason.length + f := by
      rw [Nat.add_assoc _ 1, pad4_add_of_mod _ (Nat.add_mul_mod_self_left 4 4 _), Nat.add_comm 1, hf]; omega
    rw [if_neg hre, hf] at hn
    simp (disch := buf_side) only [hie, hp4, Bool.not_false, ↓reduceIte, Nat.add_sub_cancel_left,
      seq_write writeSources_seq, srcImages_length, setByte_done, copyAt_done, fillAt_if_done, writePadding_done,
      R.ok_bind, R.pure_eq]
    refine packet_done hl (by omega) ?_
    simp only [hie, zfill, hf, Nat.add_sub_cancel_left, List.append_assoc, List.length_cons, List.cons_append,
      List.nil_append, Bool.false_eq_true, if_false]

end Rtcp.Proofs
