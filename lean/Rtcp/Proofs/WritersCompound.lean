/-
  The compound builder (C14, C16).  `sizeLoop` is characterised once (`sizeLoop_ok_iff`); the size,
  the acceptance condition and the refinement statement are read off it.  `writeLoop` is run on
  its own, over members that refine their images position by position (`Pointwise`).
-/
import Rtcp.Proofs.Rules

namespace Rtcp.Proofs
open Rtcp Rtcp.Impl Rtcp.Spec Rtcp.Props

/-- two lists related position by position; `Props.AllRefine` is `Pointwise Refines` spelt out -/
def Pointwise {α β : Type} (r : α → β → Prop) (as : List α) (bs : List β) : Prop :=
  as.length = bs.length ∧ ∀ i (h1 : i < as.length) (h2 : i < bs.length), r as[i] bs[i]

namespace Pointwise
variable {α β γ : Type} {r : α → β → Prop}

theorem nil : Pointwise r [] [] := ⟨rfl, fun _ h _ => absurd h (Nat.not_lt_zero _)⟩

theorem cons_iff {a : α} {as : List α} {b : β} {bs : List β} :
    Pointwise r (a :: as) (b :: bs) ↔ r a b ∧ Pointwise r as bs := by
  constructor
  · rintro ⟨hl, hr⟩
    exact ⟨hr 0 (Nat.zero_lt_succ _) (Nat.zero_lt_succ _), Nat.succ.inj hl,
      fun i h1 h2 => hr (i + 1) (Nat.succ_lt_succ h1) (Nat.succ_lt_succ h2)⟩
  · rintro ⟨h0, hl, hr⟩
    refine ⟨congrArg (· + 1) hl, fun i h1 h2 => ?_⟩
    cases i with
    | zero => exact h0
    | succ j => exact hr j (Nat.lt_of_succ_lt_succ h1) (Nat.lt_of_succ_lt_succ h2)

theorem map (f : γ → α) (g : γ → β) (l : List γ) (h : ∀ c ∈ l, r (f c) (g c)) :
    Pointwise r (l.map f) (l.map g) :=
  ⟨by rw [List.length_map, List.length_map], fun i h1 h2 => by
    rw [List.getElem_map, List.getElem_map]
    exact h _ (List.getElem_mem _)⟩

/-- induction without indices: `induction as, bs, h using Pointwise.rec'` -/
theorem rec' {motive : ∀ as bs, Pointwise r as bs → Prop} (nil : motive [] [] nil)
    (cons : ∀ a as b bs (h0 : r a b) (ht : Pointwise r as bs), motive as bs ht →
      motive (a :: as) (b :: bs) (cons_iff.mpr ⟨h0, ht⟩)) :
    ∀ as bs (h : Pointwise r as bs), motive as bs h
  | [], [], _ => nil
  | a :: as, b :: bs, h =>
    have ⟨h0, ht⟩ := cons_iff.mp h
    cons a as b bs h0 ht (rec' nil cons as bs ht)

end Pointwise

/-- the member's size, 0 where it has none; only read under `∀ m, ∃ k, m.calcSize = .ok k` -/
def sizeD (m : Writer) : Nat :=
  match m.calcSize with
  | .ok k => k
  | _ => 0

theorem sizeD_ok {m : Writer} {k : Nat} (h : m.calcSize = .ok k) : sizeD m = k := by rw [sizeD, h]

theorem sizeLoop_ok_iff (last : Nat) (ms : List Writer) (i size n : Nat) :
    CompoundBuilder.sizeLoop last ms i size = .ok n ↔
      (∀ m ∈ ms, ∃ k, m.calcSize = .ok k) ∧ size + (ms.map sizeD).sum = n ∧
        ∀ j (hj : j < ms.length), i + j ≠ last → ms[j].getPadding.getD 0 = 0 := by
  -- the branches of `sizeLoop` in order: no member left; padding before the last member; the step; a member
  -- whose size calculation returns an error, or panics
  fun_induction CompoundBuilder.sizeLoop last ms i size with
  | case1 i size =>
    exact ⟨fun h => ⟨fun _ hm => absurd hm List.not_mem_nil, R.ok.inj h, fun _ hj => absurd hj (Nat.not_lt_zero _)⟩,
      fun h => congrArg R.ok h.2.1⟩
  | case2 m ms i size k hc hpad =>
    rw [Bool.and_eq_true, decide_eq_true_eq, bne_iff_ne] at hpad
    exact ⟨nofun, fun h => absurd (h.2.2 0 (Nat.zero_lt_succ _) hpad.2) (UInt8.pos_iff_ne_zero.mp hpad.1)⟩
  | case3 m ms i size k hc hpad ih =>
    rw [Bool.and_eq_true, decide_eq_true_eq, bne_iff_ne, not_and, Decidable.not_not] at hpad
    rw [ih, List.forall_mem_cons, List.map_cons, List.sum_cons, sizeD_ok hc, ← Nat.add_assoc]
    -- the padding clause at position `j + 1` of `m :: ms` is the clause at position `j` of `ms`
    refine and_congr (and_iff_right ⟨k, hc⟩).symm (and_congr_right fun _ =>
      ⟨fun h j hj hne => ?_, fun h j hj hne => h (j + 1) (Nat.succ_lt_succ hj) (Nat.add_right_comm i 1 j ▸ hne)⟩)
    cases j with
    | zero => exact Decidable.byContradiction fun hp => hne (hpad (UInt8.pos_iff_ne_zero.mpr hp))
    | succ j => exact h j (Nat.lt_of_succ_lt_succ hj) (Nat.add_right_comm i 1 j ▸ hne)
  | case4 m _ _ _ _ hc | case5 m _ _ _ hc =>
    exact ⟨nofun, fun h => let ⟨k, hk⟩ := h.1 m List.mem_cons_self; nomatch hc.symm.trans hk⟩

theorem sizeLoop_no_panic (last : Nat) (ms : List Writer) (i size : Nat) (h : ∀ m ∈ ms, m.calcSize ≠ .panic) :
    CompoundBuilder.sizeLoop last ms i size ≠ .panic := by
  fun_induction CompoundBuilder.sizeLoop last ms i size with
  | case3 m ms i size n hc hpad ih => exact ih fun x hx => h x (List.mem_cons_of_mem _ hx)
  | case5 m ms i size hc => exact absurd hc (h m List.mem_cons_self)
  | _ => nofun

theorem compound_accept_iff (ms : List Writer) (hnp : ∀ m ∈ ms, m.calcSize ≠ .panic) :
    (∃ n, CompoundBuilder.calcSize ms = .ok n) ↔
      (∀ m ∈ ms, ∃ k, m.calcSize = .ok k) ∧
      (∀ i (hi : i < ms.length), i + 1 < ms.length → (ms[i].getPadding.getD 0) = 0) := by
  have _ := hnp  -- not needed; the statement is that of `Props.compound_accept_iff`
  constructor
  · rintro ⟨n, hn⟩
    obtain ⟨hs, -, hp⟩ := (sizeLoop_ok_iff _ ms 0 0 n).mp hn
    exact ⟨hs, fun i hi hlt => hp i hi (by rw [Nat.zero_add]; exact Nat.ne_of_lt (Nat.lt_sub_of_add_lt hlt))⟩
  · rintro ⟨hs, hp⟩
    refine ⟨_, (sizeLoop_ok_iff _ ms 0 0 _).mpr ⟨hs, rfl, fun j hj hne => hp j hj ?_⟩⟩
    rw [Nat.zero_add] at hne
    exact Nat.add_lt_of_lt_sub (Nat.lt_of_le_of_ne (Nat.le_sub_one_of_lt hj) hne)

theorem writeLoop_images {ms : List Writer} {imgs : List Bytes} (h : Pointwise Refines ms imgs) :
    (∀ m ∈ ms, ∃ k, m.calcSize = .ok k) →
    ∀ (done rest : Bytes), imgs.flatten.length ≤ rest.length →
      CompoundBuilder.writeLoop ms (done ++ rest) done.length
        = .ok (done ++ imgs.flatten ++ rest.drop imgs.flatten.length, done.length + imgs.flatten.length) := by
  induction ms, imgs, h using Pointwise.rec' with
  | nil => intro _ done rest _; rw [List.flatten_nil, List.append_nil]; rfl
  | cons m ms img imgs hm _ ih =>
    intro hs done rest hle
    obtain ⟨⟨k, hc⟩, hs⟩ := List.forall_mem_cons.mp hs
    obtain ⟨rfl, hw⟩ := hm.exact k hc
    rw [List.flatten_cons, List.length_append] at hle ⊢
    have hk : img.length ≤ rest.length := Nat.le_trans (Nat.le_add_right _ _) hle
    have := ih hs (done ++ img) (rest.drop img.length) (List.length_drop ▸ Nat.le_sub_of_add_le' hle)
    rw [CompoundBuilder.writeLoop]
    simp only [hc]
    rw [Var.withRange_app_ok done rest _ _ _ _ img.length _ rfl rfl hk (hw _ (List.length_take_of_le hk))]
    dsimp only
    rw [← List.length_append, this, List.drop_drop, List.length_append, List.append_assoc done, Nat.add_assoc]

theorem Pointwise.sizes {ms : List Writer} {imgs : List Bytes} (h : Pointwise Refines ms imgs) :
    (∀ m ∈ ms, ∃ k, m.calcSize = .ok k) → ms.map sizeD = imgs.map List.length := by
  induction ms, imgs, h using Pointwise.rec' with
  | nil => exact fun _ => rfl
  | cons m ms img imgs hm _ ih =>
    intro hs
    obtain ⟨⟨k, hk⟩, hs⟩ := List.forall_mem_cons.mp hs
    rw [List.map_cons, List.map_cons, ih hs, sizeD_ok hk, (hm.exact k hk).1]

theorem compound_refines (ms : List Writer) (imgs : List Bytes)
    (h : (List.length ms = List.length imgs) ∧ ∀ i (h1 : i < ms.length) (h2 : i < imgs.length), Refines ms[i] imgs[i]) :
    Refines (CompoundBuilder.toWriter ms) imgs.flatten := by
  have h : Pointwise Refines ms imgs := h
  refine ⟨sizeLoop_no_panic _ ms 0 0 fun m hm => ?_, fun n hn => ?_⟩
  · obtain ⟨i, hi, rfl⟩ := List.getElem_of_mem hm
    exact (h.2 i hi (h.1 ▸ hi)).noPanic
  obtain ⟨hs, hsum, -⟩ := (sizeLoop_ok_iff _ ms 0 0 n).mp hn
  have hlen : imgs.flatten.length = n := by rw [List.length_flatten, ← h.sizes hs, ← hsum, Nat.zero_add]
  refine ⟨hlen, fun buf hb => ?_⟩
  have := writeLoop_images h hs [] buf (Nat.le_of_eq (hlen.trans hb.symm))
  rw [hlen, List.drop_eq_nil_of_le (Nat.le_of_eq hb), List.append_nil, List.length_nil, Nat.zero_add] at this
  exact this

end Rtcp.Proofs
