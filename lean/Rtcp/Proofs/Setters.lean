/-
  The builder-method laws of C20 that are not `rfl`: adders append (a fold whose list field is followed
  by `foldl_appended`), and the NACK and FIR adders inherit the laws of their containers
  (Rtcp/Proofs/SortedSet.lean, Rtcp/Proofs/FirTable.lean).
-/
import Rtcp.Impl.Setters
import Rtcp.Proofs.FoldField
import Rtcp.Proofs.SortedSet
import Rtcp.Proofs.FirTable

namespace Rtcp.Proofs
open Rtcp Rtcp.Impl

theorem adders_preserve_order (sr : SrBuilder) (rr : RrBuilder) (bye : ByeBuilder) (sd : SdesBuilder)
    (ch : SdesChunkBuilder) (sli : SliBuilder) (ms : List Writer)
    (rbs : List ReportBlockBuilder) (ss : List UInt32) (cs : List SdesChunkBuilder) (its : List SdesItemBuilder)
    (es : List (UInt16 × UInt16 × UInt8)) (ws : List Writer) :
    (rbs.foldl SrBuilder.addReportBlock sr).reportBlocks = sr.reportBlocks ++ rbs ∧
    (rbs.foldl RrBuilder.addReportBlock rr).reportBlocks = rr.reportBlocks ++ rbs ∧
    (ss.foldl ByeBuilder.addSource bye).sources = bye.sources ++ ss ∧
    (cs.foldl SdesBuilder.addChunk sd).chunks = sd.chunks ++ cs ∧
    (its.foldl SdesChunkBuilder.addItem ch).items = ch.items ++ its ∧
    (es.foldl (fun b e => b.addLostMacroblock e.1 e.2.1 e.2.2) sli).lostMbs
      = sli.lostMbs ++ es.map (fun e => ⟨e.1, e.2.1, e.2.2⟩) ∧
    ws.foldl CompoundBuilder.addPacket ms = ms ++ ws :=
  ⟨foldl_appended (fun _ _ => rfl) rbs sr, foldl_appended (fun _ _ => rfl) rbs rr,
    foldl_appended (fun _ _ => rfl) ss bye, foldl_appended (fun _ _ => rfl) cs sd,
    foldl_appended (fun _ _ => rfl) its ch, foldl_pushed (fun _ _ => rfl) es sli,
    foldl_appended (f := id) (fun _ _ => rfl) ws ms⟩

theorem nack_add_idempotent (b : NackBuilder) (s : UInt16) (h : b.rtpSeq.Pairwise (· < ·)) :
    (b.addRtpSequence s).addRtpSequence s = b.addRtpSequence s :=
  have h1 := sortedInsert_pairwise s h
  nack_ext (sortedInsert_pairwise s h1) h1 fun x => by
    simp only [NackBuilder.addRtpSequence, mem_sortedInsert, or_self_left]

theorem fir_add_last_wins (b : FirBuilder) (k : UInt32) (v v' : UInt8) :
    (b.addSsrc k v).addSsrc k v' = b.addSsrc k v' :=
  congrArg FirBuilder.mk (upsert_upsert_same k v v' b.ssrcSeq)

end Rtcp.Proofs
