/-
  The writer contract and what follows from it for `write_into` (lib.rs:85-92).

  `Refines w img`: whenever size calculation succeeds with `n`, the image has exactly `n` bytes and
  the unchecked writer turns *any* `n`-byte buffer into exactly the image, returning `n`; and size
  calculation never panics.  Every built-in builder is proved to satisfy it (Props/Writers*.lean);
  for third-party writers it is the documented trait contract, assumed.

  From it: C06 (announced = written, never panics, short buffer ⇒ OutputTooSmall n, size error ⇒
  same error), C07 (bytes written = image), C17 (independent of previous contents, nothing beyond
  n touched, failed write touches nothing).
-/
import Rtcp.Impl.Compound

namespace Rtcp.Props
open Rtcp Rtcp.Impl

structure Refines (w : Writer) (img : Bytes) : Prop where
  noPanic : w.calcSize ≠ .panic
  exact : ∀ n, w.calcSize = .ok n → img.length = n ∧ ∀ buf : Bytes, buf.length = n → w.write buf = .ok (img, n)

variable {w : Writer} {img : Bytes}

/-- C06/C07/C17: enough room ⇒ returns `n`, the first `n` bytes are the image, the rest is untouched. -/
theorem writeInto_ok (hw : Refines w img) {n : Nat} (hs : w.calcSize = .ok n) (buf : Bytes)
    (hb : n ≤ buf.length) : w.writeInto buf = (img ++ buf.drop n, .ok n) := by
  have hwr := (hw.exact n hs).2 (buf.take n) (List.length_take_of_le hb)
  simp only [Writer.writeInto, Impl.writeInto, hs, Nat.not_lt.mpr hb, ↓reduceIte, hwr]

/-- C06: a shorter buffer ⇒ `OutputTooSmall n`; C17: and the buffer is unchanged. -/
theorem writeInto_short {n : Nat} (hs : w.calcSize = .ok n) (buf : Bytes) (hb : buf.length < n) :
    w.writeInto buf = (buf, .err (.outputTooSmall n)) := by
  unfold Writer.writeInto Impl.writeInto
  simp only [hs, hb, ↓reduceIte]

/-- C06: size calculation fails ⇒ writing fails with the same error; C17: buffer unchanged. -/
theorem writeInto_err {e : WriteError} (hs : w.calcSize = .err e) (buf : Bytes) :
    w.writeInto buf = (buf, .err e) := by
  unfold Writer.writeInto Impl.writeInto
  simp only [hs]

/-- the two ways `write_into` ends for a writer that keeps the contract: the image is written, or
    the buffer is handed back with an error -/
theorem writeInto_cases (hw : Refines w img) (buf : Bytes) :
    (∃ n, img.length = n ∧ n ≤ buf.length ∧ w.writeInto buf = (img ++ buf.drop n, .ok n)) ∨
      ∃ e, w.writeInto buf = (buf, .err e) := by
  cases hs : w.calcSize with
  | ok n =>
    by_cases hb : n ≤ buf.length
    · exact .inl ⟨n, (hw.exact n hs).1, hb, writeInto_ok hw hs buf hb⟩
    · exact .inr ⟨_, writeInto_short hs buf (by omega)⟩
  | err e => exact .inr ⟨e, writeInto_err hs buf⟩
  | panic => exact absurd hs hw.noPanic

/-- C06: writing never panics. -/
theorem writeInto_no_panic (hw : Refines w img) (buf : Bytes) : (w.writeInto buf).2 ≠ .panic := by
  rcases writeInto_cases hw buf with ⟨n, -, -, h⟩ | ⟨e, h⟩ <;> rw [h] <;> nofun

/-- C07: the `n` bytes reported as written are the image. -/
theorem written_eq_image (hw : Refines w img) {n : Nat} (hs : w.calcSize = .ok n) (buf : Bytes)
    (hb : n ≤ buf.length) : ((w.writeInto buf).1).take n = img := by
  rw [writeInto_ok hw hs buf hb]
  exact List.take_left' (hw.exact n hs).1

/-- C17: the bytes written do not depend on the previous contents of the buffer. -/
theorem prefill_independent (hw : Refines w img) {n : Nat} (hs : w.calcSize = .ok n) (buf₁ buf₂ : Bytes)
    (h₁ : n ≤ buf₁.length) (h₂ : n ≤ buf₂.length) :
    ((w.writeInto buf₁).1).take n = ((w.writeInto buf₂).1).take n := by
  rw [written_eq_image hw hs buf₁ h₁, written_eq_image hw hs buf₂ h₂]

/-- C17: bytes beyond `n` are left unchanged. -/
theorem tail_untouched (hw : Refines w img) {n : Nat} (hs : w.calcSize = .ok n) (buf : Bytes)
    (hb : n ≤ buf.length) : ((w.writeInto buf).1).drop n = buf.drop n := by
  rw [writeInto_ok hw hs buf hb]
  exact List.drop_left' (hw.exact n hs).1

/-- C17: a write that fails leaves the whole buffer unchanged. -/
theorem failed_write_untouched (hw : Refines w img) (buf : Bytes) {e : WriteError}
    (h : (w.writeInto buf).2 = .err e) : (w.writeInto buf).1 = buf := by
  rcases writeInto_cases hw buf with ⟨n, -, -, h'⟩ | ⟨e', h'⟩
  · rw [h'] at h; cases h
  · rw [h']

/-- C17 (the `rewrite_same` observation): writing the same packet again into the same buffer, after
    the caller changed any of the `n` bytes it had received, gives the same buffer and the same
    result: nothing of what a buffer held survives in the bytes written, and no write depends on
    an earlier one. -/
theorem write_again (hw : Refines w img) {n : Nat} (hs : w.calcSize = .ok n) (buf buf' : Bytes)
    (hb : n ≤ buf.length) (hl : buf'.length = buf.length) (hd : buf'.drop n = buf.drop n) :
    w.writeInto buf' = w.writeInto buf := by
  rw [writeInto_ok hw hs buf hb, writeInto_ok hw hs buf' (by omega), hd]

/-- the `interleave` observation: once the size is known to be `n`, the unchecked writer fills a
    buffer of exactly `n` bytes with the image, whatever was sized or written in between. -/
theorem write_unchecked_exact (hw : Refines w img) {n : Nat} (hs : w.calcSize = .ok n) (buf : Bytes)
    (hb : buf.length = n) : w.write buf = .ok (img, n) := (hw.exact n hs).2 buf hb

/-- C06: the buffer keeps its length. -/
theorem length_preserved (hw : Refines w img) (buf : Bytes) : ((w.writeInto buf).1).length = buf.length := by
  rcases writeInto_cases hw buf with ⟨n, rfl, hb, h⟩ | ⟨e, h⟩
  · rw [h, List.length_append, List.length_drop, Nat.add_sub_cancel' hb]
  · rw [h]

end Rtcp.Props
