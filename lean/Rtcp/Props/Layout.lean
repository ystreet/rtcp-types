/-
  C07: the clauses of the RFC wire layout made visible on the image `Spec.packet pt count padding
  body` that every whole-packet builder is proved to write (Props/Writers.lean): version 2, the
  padding bit set exactly when padding was requested, the 5-bit count, the packet type, a length
  field equal to size/4 − 1, the body at offset 4, and a trailer of zeros ending in the padding
  count.  Plus pins of the Spec encoders to packets laid out by hand from the RFC figures
  (kernel-evaluated), so that the reference is not just self-consistent; the byte-exact vectors of
  the repository's own tests are pinned in Props/Pins.lean.

  STATEMENTS ARE FIXED. Each is read off the lemmas of Rtcp/Proofs/*.lean in a few lines.
-/
import Rtcp.Spec.All
import Rtcp.Proofs.PacketImage

namespace Rtcp.Props
open Rtcp Rtcp.Impl Rtcp.Spec

/-- size of a whole packet image -/
theorem packet_length (pt : UInt8) (c : Nat) (p : UInt8) (body : Bytes) :
    (packet pt c p body).length = 4 + body.length + p.toNat := Proofs.packet_length pt c p body

/-- the common header of every whole-packet image whose size is a multiple of 4 within the
    16-bit length field and whose count fits 5 bits -/
theorem packet_header (pt : UInt8) (c : Nat) (p : UInt8) (body : Bytes) (hc : c ≤ 31)
    (h4 : (body.length + p.toNat) % 4 = 0) (hs : 4 + body.length + p.toNat ≤ 262144) :
    let img := packet pt c p body
    version img = 2 ∧ (pbit img = true ↔ p ≠ 0) ∧ count img = c ∧ ptype img = pt ∧
    (img.getD 2 0).toNat * 256 + (img.getD 3 0).toNat = img.length / 4 - 1 ∧
    lengthField img = img.length := by
  intro img
  have hl : img.length = 4 + body.length + p.toNat := Proofs.packet_length pt c p body
  exact ⟨Proofs.RT.version_packet .., by rw [Proofs.RT.pbit_packet]; exact bne_iff_ne,
    Proofs.RT.count_packet_lt _ _ _ (Nat.lt_succ_of_le hc), Proofs.RT.ptype_packet ..,
    hl ▸ Proofs.RT.lengthBytes_packet pt c p body hs,
    (Proofs.RT.lengthField_of_size hl ⟨by rw [Nat.add_assoc, Nat.add_mod, h4], hs⟩).trans hl.symm⟩

/-- body at offset 4; trailing padding of `p − 1` zeros ending in the count `p` -/
theorem packet_body_trailer (pt : UInt8) (c : Nat) (p : UInt8) (body : Bytes) :
    let img := packet pt c p body
    range img 4 (4 + body.length) = body ∧
    (p ≠ 0 → img.drop (4 + body.length) = List.replicate (p.toNat - 1) 0 ++ [p]) ∧
    (p = 0 → img.drop (4 + body.length) = []) := by
  intro img
  exact ⟨Proofs.Read.range_of_prefix (Proofs.RT.packet_body_prefix ..),
    fun hp => by rw [Proofs.RT.drop_packet, trailer, if_neg hp],
    fun hp => by rw [Proofs.RT.drop_packet, trailer, if_pos hp]⟩

/-- big-endian: most significant octet first -/
theorem be_layout (x : UInt32) (y : UInt16) :
    be32 x = [(x.toNat / 16777216).toUInt8, (x.toNat / 65536 % 256).toUInt8, (x.toNat / 256 % 256).toUInt8,
              (x.toNat % 256).toUInt8] ∧
    be16 y = [(y.toNat / 256).toUInt8, (y.toNat % 256).toUInt8] := by
  -- the most significant digit needs no `% 256`
  have hx : x.toNat < 16777216 * 256 := x.toNat_lt
  have hy : y.toNat < 256 * 256 := y.toNat_lt
  rw [be32, be16, Nat.mod_eq_of_lt (Nat.div_lt_of_lt_mul hx), Nat.mod_eq_of_lt (Nat.div_lt_of_lt_mul hy)]
  exact ⟨rfl, rfl⟩

/-- SDES chunks are null-terminated and zero-filled to 32 bits -/
theorem chunk_layout (c : SdesChunkBuilder) :
    ∃ fill, chunkImage c = be32 c.ssrc ++ (c.items.map itemImage).flatten ++ [0] ++ List.replicate fill 0 ∧
      fill < 4 ∧ (chunkImage c).length % 4 = 0 := Proofs.zfill_spec _

/-! ## pins: packets laid out by hand from the RFC figures (kernel evaluation) -/

/-- RFC 3550 §6.4.1, SR without report blocks -/
example : srImage { ssrc := 0x91827364, ntp := 0x0102030405060708, rtp := 0x11121314, packetCount := 0x21222324,
                    octetCount := 0x31323334 } =
    [0x80, 0xc8, 0x00, 0x06, 0x91, 0x82, 0x73, 0x64, 0x01, 0x02, 0x03, 0x04, 0x05, 0x06, 0x07, 0x08,
     0x11, 0x12, 0x13, 0x14, 0x21, 0x22, 0x23, 0x24, 0x31, 0x32, 0x33, 0x34] := by decide

/-- RFC 3550 §6.4.2: an RR with one report block, fraction lost sharing a word with the 24-bit loss -/
example : rrImage { ssrc := 0x91827364, reportBlocks := [⟨0x1234567, 0xff, 0xfffffe, 1, 2, 3, 4⟩] } =
    [0x81, 0xc9, 0x00, 0x07, 0x91, 0x82, 0x73, 0x64, 0x01, 0x23, 0x45, 0x67, 0xff, 0xff, 0xff, 0xfe,
     0, 0, 0, 1, 0, 0, 0, 2, 0, 0, 0, 3, 0, 0, 0, 4] := by decide

/-- RFC 3550 §6.6: two sources and the reason "Shutdown" (8 bytes → 3 bytes of fill) -/
example : byeImage { sources := [0x12345678, 0x56789abc], reason := [0x53, 0x68, 0x75, 0x74, 0x64, 0x6f, 0x77, 0x6e] } =
    [0x82, 0xcb, 0x00, 0x05, 0x12, 0x34, 0x56, 0x78, 0x56, 0x78, 0x9a, 0xbc,
     0x08, 0x53, 0x68, 0x75, 0x74, 0x64, 0x6f, 0x77, 0x6e, 0x00, 0x00, 0x00] := by decide

/-- BYE with a 2-byte reason and 4 bytes of padding: the trailer follows the aligned reason -/
example : byeImage { padding := 4, sources := [7], reason := [0x61, 0x62] } =
    [0xa1, 0xcb, 0x00, 0x03, 0, 0, 0, 7, 0x02, 0x61, 0x62, 0x00, 0x00, 0x00, 0x00, 0x04] := by decide

/-- RFC 3550 §6.7 -/
example : appImage { ssrc := 0x91827364, name := [0x6e, 0x61, 0x6d, 0x65], subtype := 31, data := [1, 2, 3, 0] } =
    [0x9f, 0xcc, 0x00, 0x03, 0x91, 0x82, 0x73, 0x64, 0x6e, 0x61, 0x6d, 0x65, 0x01, 0x02, 0x03, 0x00] := by decide

/-- RFC 3550 §6.5: one chunk with CNAME "ab" -/
example : sdesImage { chunks := [{ ssrc := 0x98765432, items := [{ type := 1, value := [0x61, 0x62] }] }] } =
    [0x81, 0xca, 0x00, 0x03, 0x98, 0x76, 0x54, 0x32, 0x01, 0x02, 0x61, 0x62, 0x00, 0x00, 0x00, 0x00] := by decide

/-- SDES PRIV item: length covers prefix-length octet, prefix and value (RFC 3550 §6.5.8) -/
example : itemImage { type := 8, value := [0x76, 0x76], prefix_ := [0x70] } = [8, 4, 1, 0x70, 0x76, 0x76] := by decide

/-- RFC 4585 §6.2.1: sequence numbers 0x1234 and 0x1235 → one word, BLP bit 0 -/
example : fbImage .transport (.nack ⟨[0x1234, 0x1235]⟩) 0 0x98765432 0x10fedcba =
    [0x81, 0xcd, 0x00, 0x03, 0x98, 0x76, 0x54, 0x32, 0x10, 0xfe, 0xdc, 0xba, 0x12, 0x34, 0x00, 0x01] := by decide

/-- RFC 5104 §4.3.1 -/
example : fbImage .payload (.fir ⟨[(0x12345678, 0x23)]⟩) 0 0x98765432 0 =
    [0x84, 0xce, 0x00, 0x04, 0x98, 0x76, 0x54, 0x32, 0, 0, 0, 0, 0x12, 0x34, 0x56, 0x78, 0x23, 0, 0, 0] := by decide

/-- RFC 4585 §6.3.2: first 0x1234, number 0x0987, picture id 0x25 -/
example : sliEntryImage ⟨0x1234, 0x0987, 0x25⟩ = [0x91, 0xa2, 0x61, 0xe5] := by decide

/-- RFC 4585 §6.3.3: payload type 96, one byte 0x1c with 2 unused bits → PB = 8 + 2 -/
example : rpsiImage { payloadType := 96, nativeBitString := [0x1c], nativeBitOverrun := 2 } = [10, 96, 0x1c, 0] := by decide

/-- RFC 4585 §6.3.1 (also the vector of pli.rs `pli_build_parse`) -/
example : fbImage .payload .pli 0 0x98765432 0x10fedcba =
    [0x81, 0xce, 0x00, 0x02, 0x98, 0x76, 0x54, 0x32, 0x10, 0xfe, 0xdc, 0xba] := by decide

end Rtcp.Props
