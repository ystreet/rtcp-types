/-
  Pins: every byte-exact vector of the repository's own test suite (/repo/src/*.rs,
  /repo/src/feedback/*.rs, /repo/tests/custom_packet.rs), stated against the Spec encoders
  (`Spec/Wire.lean`), the reference readers (`Spec/Framing.lean`, `Spec/Decode.lean`) and the model
  parsers / accessors / size calculations (`Impl/*.lean`).

  * a test that BUILDS a packet and asserts the bytes written  ⇒  `xImage cfg = bytes`
    (plus `cfg.calcSize = .ok REQ_LEN`, which every such test asserts too);
  * a test that PARSES a vector and asserts field values  ⇒  `X.parse v = .ok v` and the asserted
    values through the reference readers and the model accessors;
  * a test that expects a parse / build error  ⇒  the same error from the model.

  Everything is closed by kernel evaluation (`decide +kernel`: several model functions are defined by
  well-founded recursion, which only the kernel unfolds).  The expectations are transcribed
  from the Rust tests, never from the model.  One doc comment per example: Rust file, test function.
-/
import Rtcp.Spec.All
import Rtcp.Proofs.Bits

namespace Rtcp.Props
open Rtcp Rtcp.Impl Rtcp.Spec

/-! ## src/app.rs -/

private def appEmpty : Bytes := [0x80, 0xcc, 0x00, 0x02, 0x91, 0x82, 0x73, 0x64, 0x00, 0x00, 0x00, 0x00]

/-- app.rs `parse_empty_app` -/
example :
    App.parse appEmpty = .ok appEmpty ∧ version appEmpty = 2 ∧ (hVersion appEmpty : R Unit UInt8) = .ok 2 ∧
    paddingOf appEmpty = none ∧ (App.padding appEmpty : R Unit (Option UInt8)) = .ok none ∧
    count appEmpty = 0 ∧ (hCount appEmpty : R Unit UInt8) = .ok 0 ∧
    range appEmpty 8 12 = [0, 0, 0, 0] ∧ (App.name appEmpty : R Unit Bytes) = .ok [0, 0, 0, 0] ∧
    range appEmpty 12 (appEmpty.length - padLen appEmpty) = [] ∧
    (App.data appEmpty : R Unit Slice) = .ok ⟨12, []⟩ := by decide +kernel

/-- app.rs `build_empty_app` -/
example :
    appImage { ssrc := 0x91827364, name := [0x6e, 0x61, 0x6d, 0x65] } =
      [0x80, 0xcc, 0x00, 0x02, 0x91, 0x82, 0x73, 0x64, 0x6e, 0x61, 0x6d, 0x65] ∧
    ({ ssrc := 0x91827364, name := [0x6e, 0x61, 0x6d, 0x65] } : AppBuilder).calcSize = .ok 12 := by decide +kernel

private def appFull : Bytes :=
  [0xbf, 0xcc, 0x00, 0x04, 0x91, 0x82, 0x73, 0x64, 0x6e, 0x61, 0x6d, 0x65, 0x01, 0x02,
   0x03, 0x00, 0x00, 0x00, 0x00, 0x04]

/-- app.rs `parse_app` -/
example :
    App.parse appFull = .ok appFull ∧ version appFull = 2 ∧ (hVersion appFull : R Unit UInt8) = .ok 2 ∧
    paddingOf appFull = some 4 ∧ (App.padding appFull : R Unit (Option UInt8)) = .ok (some 4) ∧
    count appFull = 31 ∧ (hCount appFull : R Unit UInt8) = .ok 31 ∧
    range appFull 8 12 = [0x6e, 0x61, 0x6d, 0x65] ∧
    (App.name appFull : R Unit Bytes) = .ok [0x6e, 0x61, 0x6d, 0x65] ∧
    range appFull 12 (appFull.length - padLen appFull) = [0x01, 0x02, 0x03, 0x00] ∧
    (App.data appFull : R Unit Slice) = .ok ⟨12, [0x01, 0x02, 0x03, 0x00]⟩ := by decide +kernel

/-- app.rs `build_app` -/
example :
    appImage { ssrc := 0x91827364, name := [0x6e, 0x61, 0x6d, 0x65], padding := 4, subtype := 31,
               data := [0x01, 0x02, 0x03, 0x00] } =
      [0xbf, 0xcc, 0x00, 0x04, 0x91, 0x82, 0x73, 0x64, 0x6e, 0x61, 0x6d, 0x65, 0x01, 0x02,
       0x03, 0x00, 0x00, 0x00, 0x00, 0x04] ∧
    ({ ssrc := 0x91827364, name := [0x6e, 0x61, 0x6d, 0x65], padding := 4, subtype := 31,
       data := [0x01, 0x02, 0x03, 0x00] } : AppBuilder).calcSize = .ok 20 := by decide +kernel

/-- app.rs `build_short_name` -/
example :
    appImage { ssrc := 0x91827364, name := [0x6e, 0x61, 0x6d], subtype := 31 } =
      [0x9f, 0xcc, 0x00, 0x02, 0x91, 0x82, 0x73, 0x64, 0x6e, 0x61, 0x6d, 0x00] ∧
    ({ ssrc := 0x91827364, name := [0x6e, 0x61, 0x6d], subtype := 31 } : AppBuilder).calcSize = .ok 12 := by
  decide +kernel

/-- app.rs `build_subtype_out_of_range` -/
example :
    ({ ssrc := 0x91827364, name := [0x6e, 0x61, 0x6d, 0x65], subtype := 0x1f + 1 } : AppBuilder).calcSize =
      .err (.appSubtypeOutOfRange (0x1f + 1) 0x1f) := by decide +kernel

/-- app.rs `build_invalid_name_too_large` ("name_") -/
example :
    ({ ssrc := 0x91827364, name := [0x6e, 0x61, 0x6d, 0x65, 0x5f] } : AppBuilder).calcSize = .err .invalidName := by
  decide +kernel

/-- app.rs `build_invalid_non_ascii_name` ("nąm" = 6e c4 85 6d in UTF-8) -/
example :
    ({ ssrc := 0x91827364, name := [0x6e, 0xc4, 0x85, 0x6d] } : AppBuilder).calcSize = .err .invalidName := by
  decide +kernel

/-- app.rs `build_data_len_not_32bits_multiple` -/
example :
    ({ ssrc := 0x91827364, name := [0x6e, 0x61, 0x6d, 0x65], data := [0x01, 0x02, 0x03] } : AppBuilder).calcSize =
      .err (.dataLen32bitMultiple 3) := by decide +kernel

/-- app.rs `build_padding_not_multiple_4` -/
example :
    ({ ssrc := 0x91827364, name := [0x6e, 0x61, 0x6d, 0x65], padding := 5 } : AppBuilder).calcSize =
      .err (.invalidPadding 5) := by decide +kernel

/-! ## src/bye.rs -/

private def byeEmpty : Bytes := [0x80, 0xcb, 0x00, 0x00]

/-- bye.rs `parse_bye_empty` -/
example :
    Bye.parse byeEmpty = .ok byeEmpty ∧ paddingOf byeEmpty = none ∧
    (Bye.padding byeEmpty : R Unit (Option UInt8)) = .ok none ∧
    count byeEmpty = 0 ∧ (hCount byeEmpty : R Unit UInt8) = .ok 0 ∧
    (Bye.ssrcs byeEmpty : R Unit (List UInt32)) = .ok [] ∧
    (Bye.reason byeEmpty : R Unit (Option Slice)) = .ok none := by decide +kernel

/-- bye.rs `build_bye_empty` -/
example : byeImage {} = [0x80, 0xcb, 0x00, 0x00] ∧ ({} : ByeBuilder).calcSize = .ok 4 := by decide +kernel

/-- bye.rs `build_bye_static` (`Bye::builder().reason_owned("Bye").add_source(0x12345678)`) -/
example :
    byeImage { sources := [0x12345678], reason := [0x42, 0x79, 0x65] } =
      [0x81, 0xcb, 0x00, 0x02, 0x12, 0x34, 0x56, 0x78, 0x03, 0x42, 0x79, 0x65] ∧
    ({ sources := [0x12345678], reason := [0x42, 0x79, 0x65] } : ByeBuilder).calcSize = .ok 12 := by decide +kernel

private def bye3 : Bytes :=
  [0x83, 0xcb, 0x00, 0x03, 0x12, 0x34, 0x56, 0x78, 0x34, 0x56, 0x78, 0x9a, 0x56, 0x78, 0x9a, 0xbc]

/-- bye.rs `parse_bye_3_sources` -/
example :
    Bye.parse bye3 = .ok bye3 ∧ paddingOf bye3 = none ∧ (Bye.padding bye3 : R Unit (Option UInt8)) = .ok none ∧
    count bye3 = 3 ∧ (hCount bye3 : R Unit UInt8) = .ok 3 ∧
    [u32At bye3 4, u32At bye3 8, u32At bye3 12] = [0x12345678, 0x3456789a, 0x56789abc] ∧
    (Bye.ssrcs bye3 : R Unit (List UInt32)) = .ok [0x12345678, 0x3456789a, 0x56789abc] ∧
    (Bye.reason bye3 : R Unit (Option Slice)) = .ok none := by decide +kernel

/-- bye.rs `build_bye_3_sources` -/
example :
    byeImage { sources := [0x12345678, 0x3456789a, 0x56789abc] } =
      [0x83, 0xcb, 0x00, 0x03, 0x12, 0x34, 0x56, 0x78, 0x34, 0x56, 0x78, 0x9a, 0x56, 0x78, 0x9a, 0xbc] ∧
    ({ sources := [0x12345678, 0x3456789a, 0x56789abc] } : ByeBuilder).calcSize = .ok 16 := by decide +kernel

private def bye2r : Bytes :=
  [0x82, 0xcb, 0x00, 0x05, 0x12, 0x34, 0x56, 0x78, 0x34, 0x56, 0x78, 0x9a, 0x08, 0x53,
   0x68, 0x75, 0x74, 0x64, 0x6f, 0x77, 0x6e, 0x00, 0x00, 0x00]

/-- bye.rs `parse_bye_2_sources_reason` ("Shutdown") -/
example :
    Bye.parse bye2r = .ok bye2r ∧ paddingOf bye2r = none ∧ (Bye.padding bye2r : R Unit (Option UInt8)) = .ok none ∧
    count bye2r = 2 ∧ (hCount bye2r : R Unit UInt8) = .ok 2 ∧
    [u32At bye2r 4, u32At bye2r 8] = [0x12345678, 0x3456789a] ∧
    (Bye.ssrcs bye2r : R Unit (List UInt32)) = .ok [0x12345678, 0x3456789a] ∧
    range bye2r 13 (13 + u8At bye2r 12) = [0x53, 0x68, 0x75, 0x74, 0x64, 0x6f, 0x77, 0x6e] ∧
    (Bye.reason bye2r : R Unit (Option Slice)) =
      .ok (some ⟨13, [0x53, 0x68, 0x75, 0x74, 0x64, 0x6f, 0x77, 0x6e]⟩) := by decide +kernel

/-- bye.rs `build_bye_2_sources_reason` -/
example :
    byeImage { sources := [0x12345678, 0x3456789a], reason := [0x53, 0x68, 0x75, 0x74, 0x64, 0x6f, 0x77, 0x6e] } =
      [0x82, 0xcb, 0x00, 0x05, 0x12, 0x34, 0x56, 0x78, 0x34, 0x56, 0x78, 0x9a, 0x08, 0x53,
       0x68, 0x75, 0x74, 0x64, 0x6f, 0x77, 0x6e, 0x00, 0x00, 0x00] ∧
    ({ sources := [0x12345678, 0x3456789a], reason := [0x53, 0x68, 0x75, 0x74, 0x64, 0x6f, 0x77, 0x6e] }
      : ByeBuilder).calcSize = .ok 24 := by decide +kernel

/-- bye.rs `build_bye_2_sources_raw_reason` (same calls and bytes as the previous test) -/
example :
    byeImage { sources := [0x12345678, 0x3456789a], reason := [0x53, 0x68, 0x75, 0x74, 0x64, 0x6f, 0x77, 0x6e] } =
      [0x82, 0xcb, 0x00, 0x05, 0x12, 0x34, 0x56, 0x78, 0x34, 0x56, 0x78, 0x9a, 0x08, 0x53,
       0x68, 0x75, 0x74, 0x64, 0x6f, 0x77, 0x6e, 0x00, 0x00, 0x00] ∧
    ({ sources := [0x12345678, 0x3456789a], reason := [0x53, 0x68, 0x75, 0x74, 0x64, 0x6f, 0x77, 0x6e] }
      : ByeBuilder).calcSize = .ok 24 := by decide +kernel

/-- bye.rs `build_too_many_sources` (32 × `add_source(0)`) -/
example :
    ({ sources := List.replicate 32 0 } : ByeBuilder).calcSize = .err (.tooManySources 32 31) := by decide +kernel

/-- bye.rs `build_reason_too_large` (256 × 'a') -/
example :
    ({ reason := List.replicate 256 0x61 } : ByeBuilder).calcSize = .err (.reasonLenTooLarge 256 0xff) := by
  decide +kernel

/-- bye.rs `build_padding_not_multiple_4` -/
example : ({ padding := 5 } : ByeBuilder).calcSize = .err (.invalidPadding 5) := by decide +kernel

/-! ## src/compound.rs -/

private def cRrBye : Bytes := [0x80, 0xc9, 0x00, 0x01, 0x91, 0x82, 0x73, 0x64, 0x80, 0xcb, 0x00, 0x00]

/-- compound.rs `parse_rr_bye`: an RR then a BYE, then `None` -/
example :
    Compound.parse cRrBye = .ok ⟨cRrBye, 0, false⟩ ∧
    tiling cRrBye = some [[0x80, 0xc9, 0x00, 0x01, 0x91, 0x82, 0x73, 0x64], [0x80, 0xcb, 0x00, 0x00]] ∧
    (Compound.collect 3 ⟨cRrBye, 0, false⟩ [] : R Unit _) =
      .ok ([(.ok (.rr [0x80, 0xc9, 0x00, 0x01, 0x91, 0x82, 0x73, 0x64]), 0), (.ok (.bye [0x80, 0xcb, 0x00, 0x00]), 8)],
           true, ⟨cRrBye, 12, true⟩) := by decide +kernel

/-- compound.rs `build_rr_bye` -/
example :
    rrImage { ssrc := 0x1234567 } ++ byeImage {} =
      [0x80, 0xc9, 0x00, 0x01, 0x01, 0x23, 0x45, 0x67, 0x80, 0xcb, 0x00, 0x00] ∧
    CompoundBuilder.calcSize [({ ssrc := 0x1234567 } : RrBuilder).toWriter, ({} : ByeBuilder).toWriter] = .ok 12 := by
  decide +kernel

private def cSrBye : Bytes :=
  [0x80, 0xc8, 0x00, 0x06, 0x91, 0x82, 0x73, 0x64, 0x89, 0xab, 0xcd, 0xef, 0x02, 0x24,
   0x46, 0x68, 0x8a, 0xac, 0xce, 0xe0, 0xf1, 0xe2, 0xd3, 0xc4, 0xb5, 0xa6, 0x97, 0x88,
   0x80, 0xcb, 0x00, 0x00]

/-- compound.rs `parse_sr_bye`: an SR then a BYE, then `None` -/
example :
    Compound.parse cSrBye = .ok ⟨cSrBye, 0, false⟩ ∧
    tiling cSrBye = some [cSrBye.take 28, [0x80, 0xcb, 0x00, 0x00]] ∧
    (Compound.collect 3 ⟨cSrBye, 0, false⟩ [] : R Unit _) =
      .ok ([(.ok (.sr (cSrBye.take 28)), 0), (.ok (.bye [0x80, 0xcb, 0x00, 0x00]), 28)],
           true, ⟨cSrBye, 32, true⟩) := by decide +kernel

/-- compound.rs `build_sr_bye` -/
example :
    srImage { ssrc := 0x1234567 } ++ byeImage {} =
      [0x80, 0xc8, 0x00, 0x06, 0x01, 0x23, 0x45, 0x67, 0x00, 0x00, 0x00, 0x00, 0x00, 0x00,
       0x00, 0x00, 0x00, 0x00, 0x00, 0x00, 0x00, 0x00, 0x00, 0x00, 0x00, 0x00, 0x00, 0x00,
       0x80, 0xcb, 0x00, 0x00] ∧
    CompoundBuilder.calcSize [({ ssrc := 0x1234567 } : SrBuilder).toWriter, ({} : ByeBuilder).toWriter] = .ok 32 := by
  decide +kernel

/-- compound.rs `build_rr_bye_padding` -/
example :
    rrImage { ssrc := 0x1234567 } ++ byeImage { padding := 4 } =
      [0x80, 0xc9, 0x00, 0x01, 0x01, 0x23, 0x45, 0x67, 0xa0, 0xcb, 0x00, 0x01, 0x00, 0x00, 0x00, 0x04] ∧
    CompoundBuilder.calcSize [({ ssrc := 0x1234567 } : RrBuilder).toWriter,
                              ({ padding := 4 } : ByeBuilder).toWriter] = .ok 16 := by decide +kernel

private def unk242 : Bytes := [0x80, 0xf2, 0x00, 0x02, 0x12, 0x34, 0x56, 0x78, 0x00, 0x00, 0x00, 0x00]

/-- compound.rs `parse_unknown` -/
example :
    Packet.parse unk242 = .ok (.unknown unk242) ∧ kindOfType (ptype unk242) = none ∧
    ptype unk242 = 242 ∧ (hType unk242 : R Unit UInt8) = .ok 242 := by decide +kernel

/-- compound.rs `build_app_padding_bye` -/
example :
    CompoundBuilder.calcSize
      [({ ssrc := 0x91827364, name := [0x6e, 0x61, 0x6d, 0x65], padding := 4 } : AppBuilder).toWriter,
       ({} : ByeBuilder).toWriter] = .err .nonLastCompoundPacketPadding := by decide +kernel

/-- compound.rs `parse_rr_bye_wrong_first_len` -/
example :
    Compound.parse [0x80, 0xc9, 0x00, 0x03, 0x91, 0x82, 0x73, 0x64, 0x80, 0xcb, 0x00, 0x00] =
      .err (.truncated 16 12) ∧
    tiling [0x80, 0xc9, 0x00, 0x03, 0x91, 0x82, 0x73, 0x64, 0x80, 0xcb, 0x00, 0x00] = none := by decide +kernel

/-- compound.rs `parse_rr_truncated_bye` -/
example :
    Compound.parse [0x80, 0xc9, 0x00, 0x01, 0x91, 0x82, 0x73, 0x64, 0x80, 0xcb, 0x00] = .err (.truncated 12 11) ∧
    tiling [0x80, 0xc9, 0x00, 0x01, 0x91, 0x82, 0x73, 0x64, 0x80, 0xcb, 0x00] = none := by decide +kernel

private def cBadRr : Bytes := [0x81, 0xc9, 0x00, 0x01, 0x91, 0x82, 0x73, 0x64, 0x80, 0xcb, 0x00, 0x00]

/-- compound.rs `parsing_failure_rr_bye`: the framing is fine, the first member fails, then `None` -/
example :
    Compound.parse cBadRr = .ok ⟨cBadRr, 0, false⟩ ∧
    Rr.parse (cBadRr.take 8) = .err (.truncated 32 8) ∧
    (Compound.collect 3 ⟨cBadRr, 0, false⟩ [] : R Unit _) =
      .ok ([(.err (.truncated 32 8), 0)], true, ⟨cBadRr, 8, true⟩) := by decide +kernel

private def pApp : Bytes := [0x80, 0xcc, 0x00, 0x02, 0x91, 0x82, 0x73, 0x64, 0x6e, 0x61, 0x6d, 0x65]

/-- compound.rs `parse_packet_try_as_app` -/
example :
    Packet.parse pApp = .ok (.app pApp) ∧ Packet.tryAs .app (.app pApp) = .ok (.app pApp) ∧
    range pApp 8 12 = [0x6e, 0x61, 0x6d, 0x65] ∧
    (App.name pApp : R Unit Bytes) = .ok [0x6e, 0x61, 0x6d, 0x65] := by decide +kernel

private def uBye : Bytes := [0x81, 0xcb, 0x00, 0x01, 0x12, 0x34, 0x56, 0x78]

/-- compound.rs `parse_unknown_try_as_bye` -/
example :
    Unknown.parse uBye = .ok uBye ∧ Packet.tryAs .bye (.unknown uBye) = .ok (.bye uBye) ∧
    u32At uBye 4 = 0x12345678 ∧
    ((Bye.ssrcs uBye : R Unit (List UInt32)) = .ok [0x12345678]) := by decide +kernel

/-! ## src/receiver.rs -/

private def rrEmpty : Bytes := [0x80, 0xc9, 0x00, 0x01, 0x91, 0x82, 0x73, 0x64]

/-- receiver.rs `parse_empty_rr` -/
example :
    Rr.parse rrEmpty = .ok rrEmpty ∧ version rrEmpty = 2 ∧ (hVersion rrEmpty : R Unit UInt8) = .ok 2 ∧
    paddingOf rrEmpty = none ∧ (Rr.padding rrEmpty : R Unit (Option UInt8)) = .ok none ∧
    count rrEmpty = 0 ∧ (Rr.nReports rrEmpty : R Unit UInt8) = .ok 0 ∧
    (Rr.reportBlocks rrEmpty : R Unit (List Bytes)) = .ok [] := by decide +kernel

/-- receiver.rs `build_empty_rr` -/
example :
    rrImage { ssrc := 0x91827364 } = [0x80, 0xc9, 0x00, 0x01, 0x91, 0x82, 0x73, 0x64] ∧
    ({ ssrc := 0x91827364 } : RrBuilder).calcSize = .ok 8 := by decide +kernel

private def rr2 : Bytes :=
  [0x82, 0xc9, 0x00, 0x0d, 0x91, 0x82, 0x73, 0x64, 0x01, 0x23, 0x45, 0x67, 0x00, 0x00,
   0x00, 0x00, 0x00, 0x00, 0x00, 0x00, 0x00, 0x00, 0x00, 0x00, 0x00, 0x00, 0x00, 0x00,
   0x00, 0x00, 0x00, 0x00, 0x01, 0x23, 0x45, 0x68, 0x00, 0x00, 0x00, 0x00, 0x00, 0x00,
   0x00, 0x00, 0x00, 0x00, 0x00, 0x00, 0x00, 0x00, 0x00, 0x00, 0x00, 0x00, 0x00, 0x00]

/-- receiver.rs `build_2_blocks_rr` -/
example :
    rrImage { ssrc := 0x91827364, reportBlocks := [{ ssrc := 0x1234567 }, { ssrc := 0x1234568 }] } = rr2 ∧
    ({ ssrc := 0x91827364, reportBlocks := [{ ssrc := 0x1234567 }, { ssrc := 0x1234568 }] } : RrBuilder).calcSize =
      .ok 56 := by decide +kernel

/-- receiver.rs `build_2_blocks_padded_rr` -/
example :
    rrImage { ssrc := 0x91827364, padding := 4, reportBlocks := [{ ssrc := 0x1234567 }, { ssrc := 0x1234568 }] } =
      [0xa2, 0xc9, 0x00, 0x0e, 0x91, 0x82, 0x73, 0x64, 0x01, 0x23, 0x45, 0x67, 0x00, 0x00,
       0x00, 0x00, 0x00, 0x00, 0x00, 0x00, 0x00, 0x00, 0x00, 0x00, 0x00, 0x00, 0x00, 0x00,
       0x00, 0x00, 0x00, 0x00, 0x01, 0x23, 0x45, 0x68, 0x00, 0x00, 0x00, 0x00, 0x00, 0x00,
       0x00, 0x00, 0x00, 0x00, 0x00, 0x00, 0x00, 0x00, 0x00, 0x00, 0x00, 0x00, 0x00, 0x00,
       0x00, 0x00, 0x00, 0x04] ∧
    ({ ssrc := 0x91827364, padding := 4, reportBlocks := [{ ssrc := 0x1234567 }, { ssrc := 0x1234568 }] }
      : RrBuilder).calcSize = .ok 60 := by decide +kernel

/-- receiver.rs `parse_rr_with_2_rb` -/
example :
    Rr.parse rr2 = .ok rr2 ∧ version rr2 = 2 ∧ (hVersion rr2 : R Unit UInt8) = .ok 2 ∧
    paddingOf rr2 = none ∧ (Rr.padding rr2 : R Unit (Option UInt8)) = .ok none ∧
    count rr2 = 2 ∧ (Rr.nReports rr2 : R Unit UInt8) = .ok 2 ∧
    lengthField rr2 = 56 ∧ (hLength rr2 : R Unit Nat) = .ok 56 ∧
    u32At rr2 4 = 0x91827364 ∧ (Rr.ssrc rr2 : R Unit UInt32) = .ok 0x91827364 ∧
    u32At rr2 8 = 0x01234567 ∧ u32At rr2 32 = 0x01234568 ∧
    (Rr.reportBlocks rr2 : R Unit (List Bytes)) = .ok [range rr2 8 32, range rr2 32 56] ∧
    (ReportBlock.ssrc (range rr2 8 32) : R Unit UInt32) = .ok 0x01234567 ∧
    (ReportBlock.ssrc (range rr2 32 56) : R Unit UInt32) = .ok 0x01234568 := by decide +kernel

/-- receiver.rs `parse_rr_short` -/
example : Rr.parse [0] = .err (.truncated 8 1) := by decide +kernel

/-- receiver.rs `parse_sr_too_short_for_report_count` (an RR vector, despite the name) -/
example :
    Rr.parse [0x82, 0xc9, 0x00, 0x0d, 0x91, 0x82, 0x73, 0x64, 0x01, 0x23, 0x45, 0x67, 0x00, 0x00,
              0x00, 0x00, 0x00, 0x00, 0x00, 0x00, 0x00, 0x00, 0x00, 0x00, 0x00, 0x00, 0x00, 0x00,
              0x00, 0x00, 0x00, 0x00] = .err (.truncated 56 32) := by decide +kernel

/-- receiver.rs `build_too_many_report_blocks` (32 × `ReportBlock::builder(1)`) -/
example :
    ({ ssrc := 0, reportBlocks := List.replicate 32 { ssrc := 1 } } : RrBuilder).calcSize =
      .err (.tooManyReportBlocks 32 31) := by decide +kernel

/-- receiver.rs `build_erroneous_report` -/
example :
    ({ ssrc := 0, reportBlocks := [{ ssrc := 1, cumulativeLost := 0xffffff + 1 }] } : RrBuilder).calcSize =
      .err (.cumulativeLostTooLarge (0xffffff + 1) 0xffffff) := by decide +kernel

/-- receiver.rs `build_padding_not_multiple_4` -/
example : ({ ssrc := 0, padding := 5 } : RrBuilder).calcSize = .err (.invalidPadding 5) := by decide +kernel

/-! ## src/report_block.rs -/

private def rb1 : Bytes :=
  [0x01, 0x23, 0x45, 0x67, 0x89, 0xab, 0xcd, 0xef, 0x02, 0x24, 0x46, 0x68, 0x8a, 0xac,
   0xce, 0xe0, 0xf1, 0xd3, 0xb5, 0x97, 0x79, 0x5b, 0x3d, 0x1f]

/-- report_block.rs `parse_report_block` -/
example :
    ReportBlock.parse rb1 = .ok rb1 ∧
    u32At rb1 0 = 0x1234567 ∧ (ReportBlock.ssrc rb1 : R Unit UInt32) = .ok 0x1234567 ∧
    u8At rb1 4 = 0x89 ∧ (ReportBlock.fractionLost rb1 : R Unit UInt8) = .ok 0x89 ∧
    u32At rb1 4 % 16777216 = 0xabcdef ∧ (ReportBlock.cumulativeLost rb1 : R Unit UInt32) = .ok 0xabcdef ∧
    u32At rb1 8 = 0x02244668 ∧ (ReportBlock.extendedSequenceNumber rb1 : R Unit UInt32) = .ok 0x02244668 ∧
    u32At rb1 12 = 0x8aaccee0 ∧ (ReportBlock.interarrivalJitter rb1 : R Unit UInt32) = .ok 0x8aaccee0 ∧
    u32At rb1 16 = 0xf1d3b597 ∧ (ReportBlock.lastSenderReportTimestamp rb1 : R Unit UInt32) = .ok 0xf1d3b597 ∧
    u32At rb1 20 = 0x795b3d1f ∧
    (ReportBlock.delaySinceLastSenderReportTimestamp rb1 : R Unit UInt32) = .ok 0x795b3d1f := by decide +kernel

/-- report_block.rs `build_report_block` -/
example :
    rbImage { ssrc := 0x1234567, fractionLost := 0x89, cumulativeLost := 0xabcdef,
              extendedSequenceNumber := 0x02244668, interarrivalJitter := 0x8aaccee0,
              lastSenderReportTimestamp := 0xf1d3b597, delaySinceLastSenderReportTimestamp := 0x795b3d1f } = rb1 ∧
    ({ ssrc := 0x1234567, fractionLost := 0x89, cumulativeLost := 0xabcdef,
       extendedSequenceNumber := 0x02244668, interarrivalJitter := 0x8aaccee0,
       lastSenderReportTimestamp := 0xf1d3b597, delaySinceLastSenderReportTimestamp := 0x795b3d1f }
      : ReportBlockBuilder).calcSize = .ok 24 := by decide +kernel

/-- report_block.rs `short_report_block` -/
example : ReportBlock.parse [0] = .err (.truncated 24 1) := by decide +kernel

/-- report_block.rs `too_large_report_block` -/
example : ReportBlock.parse (List.replicate 25 0) = .err (.tooLarge 24 25) := by decide +kernel

/-! ## src/sender.rs -/

private def sr0 : Bytes :=
  [0x80, 0xc8, 0x00, 0x06, 0x01, 0x23, 0x45, 0x67, 0x89, 0xab, 0xcd, 0xef, 0x02, 0x24, 0x46, 0x68,
   0x8a, 0xac, 0xce, 0xe0, 0xf1, 0xe2, 0xd3, 0xc4, 0xb5, 0xa6, 0x97, 0x88]

/-- sender.rs `parse_sr_no_report_blocks` -/
example :
    Sr.parse sr0 = .ok sr0 ∧ version sr0 = 2 ∧ (hVersion sr0 : R Unit UInt8) = .ok 2 ∧
    paddingOf sr0 = none ∧ (Sr.padding sr0 : R Unit (Option UInt8)) = .ok none ∧
    count sr0 = 0 ∧ (Sr.nReports sr0 : R Unit UInt8) = .ok 0 ∧
    u32At sr0 4 = 0x01234567 ∧ (Sr.ssrc sr0 : R Unit UInt32) = .ok 0x01234567 ∧
    u64At sr0 8 = 0x89abcdef02244668 ∧ (Sr.ntp sr0 : R Unit UInt64) = .ok 0x89abcdef02244668 ∧
    u32At sr0 16 = 0x8aaccee0 ∧ (Sr.rtp sr0 : R Unit UInt32) = .ok 0x8aaccee0 ∧
    u32At sr0 20 = 0xf1e2d3c4 ∧ (Sr.packetCount sr0 : R Unit UInt32) = .ok 0xf1e2d3c4 ∧
    u32At sr0 24 = 0xb5a69788 ∧ (Sr.octetCount sr0 : R Unit UInt32) = .ok 0xb5a69788 := by decide +kernel

/-- sender.rs `build_empty_sr` -/
example :
    srImage { ssrc := 0x01234567, ntp := 0x89abcdef02244668, rtp := 0x8aaccee0, packetCount := 0xf1e2d3c4,
              octetCount := 0xb5a69788 } = sr0 ∧
    ({ ssrc := 0x01234567, ntp := 0x89abcdef02244668, rtp := 0x8aaccee0, packetCount := 0xf1e2d3c4,
       octetCount := 0xb5a69788 } : SrBuilder).calcSize = .ok 28 := by decide +kernel

private def sr2 : Bytes :=
  [0x82, 0xc8, 0x00, 0x12, 0x91, 0x82, 0x73, 0x64, 0x89, 0xab, 0xcd, 0xef, 0x02, 0x24,
   0x46, 0x68, 0x8a, 0xac, 0xce, 0xe0, 0xf1, 0xe2, 0xd3, 0xc4, 0xb5, 0xa6, 0x97, 0x88,
   0x01, 0x23, 0x45, 0x67, 0x00, 0x00, 0x00, 0x00, 0x00, 0x00, 0x00, 0x00, 0x00, 0x00,
   0x00, 0x00, 0x00, 0x00, 0x00, 0x00, 0x00, 0x00, 0x00, 0x00, 0x01, 0x23, 0x45, 0x68,
   0x00, 0x00, 0x00, 0x00, 0x00, 0x00, 0x00, 0x00, 0x00, 0x00, 0x00, 0x00, 0x00, 0x00,
   0x00, 0x00, 0x00, 0x00, 0x00, 0x00]

/-- sender.rs `build_2_blocks_sr` -/
example :
    srImage { ssrc := 0x91827364, ntp := 0x89abcdef02244668, rtp := 0x8aaccee0, packetCount := 0xf1e2d3c4,
              octetCount := 0xb5a69788, reportBlocks := [{ ssrc := 0x1234567 }, { ssrc := 0x1234568 }] } = sr2 ∧
    ({ ssrc := 0x91827364, ntp := 0x89abcdef02244668, rtp := 0x8aaccee0, packetCount := 0xf1e2d3c4,
       octetCount := 0xb5a69788, reportBlocks := [{ ssrc := 0x1234567 }, { ssrc := 0x1234568 }] }
      : SrBuilder).calcSize = .ok 76 := by decide +kernel

/-- sender.rs `build_2_blocks_padded_sr` -/
example :
    srImage { ssrc := 0x91827364, padding := 4, reportBlocks := [{ ssrc := 0x1234567 }, { ssrc := 0x1234568 }] } =
      [0xa2, 0xc8, 0x00, 0x13, 0x91, 0x82, 0x73, 0x64, 0x00, 0x00, 0x00, 0x00, 0x00, 0x00,
       0x00, 0x00, 0x00, 0x00, 0x00, 0x00, 0x00, 0x00, 0x00, 0x00, 0x00, 0x00, 0x00, 0x00,
       0x01, 0x23, 0x45, 0x67, 0x00, 0x00, 0x00, 0x00, 0x00, 0x00, 0x00, 0x00, 0x00, 0x00,
       0x00, 0x00, 0x00, 0x00, 0x00, 0x00, 0x00, 0x00, 0x00, 0x00, 0x01, 0x23, 0x45, 0x68,
       0x00, 0x00, 0x00, 0x00, 0x00, 0x00, 0x00, 0x00, 0x00, 0x00, 0x00, 0x00, 0x00, 0x00,
       0x00, 0x00, 0x00, 0x00, 0x00, 0x00, 0x00, 0x00, 0x00, 0x04] ∧
    ({ ssrc := 0x91827364, padding := 4, reportBlocks := [{ ssrc := 0x1234567 }, { ssrc := 0x1234568 }] }
      : SrBuilder).calcSize = .ok 80 := by decide +kernel

/-- sender.rs `parse_sr_short` -/
example : Sr.parse [0x80] = .err (.truncated 28 1) := by decide +kernel

/-- sender.rs `parse_sr_too_short_for_report_count` -/
example :
    Sr.parse [0x82, 0xc8, 0x00, 0x12, 0x91, 0x82, 0x73, 0x64, 0x89, 0xab, 0xcd, 0xef, 0x02, 0x24,
              0x46, 0x68, 0x8a, 0xac, 0xce, 0xe0, 0xf1, 0xe2, 0xd3, 0xc4, 0xb5, 0xa6, 0x97, 0x88,
              0x01, 0x23, 0x45, 0x67, 0x00, 0x00, 0x00, 0x00, 0x00, 0x00, 0x00, 0x00, 0x00, 0x00,
              0x00, 0x00, 0x00, 0x00, 0x00, 0x00, 0x00, 0x00, 0x00, 0x00, 0x01] = .err (.truncated 76 53) := by
  decide +kernel

/-- sender.rs `build_too_many_report_blocks` (32 × `ReportBlock::builder(1)`) -/
example :
    ({ ssrc := 0, reportBlocks := List.replicate 32 { ssrc := 1 } } : SrBuilder).calcSize =
      .err (.tooManyReportBlocks 32 31) := by decide +kernel

/-- sender.rs `build_erroneous_report` -/
example :
    ({ ssrc := 0, reportBlocks := [{ ssrc := 1, cumulativeLost := 0xffffff + 1 }] } : SrBuilder).calcSize =
      .err (.cumulativeLostTooLarge (0xffffff + 1) 0xffffff) := by decide +kernel

/-- sender.rs `build_padding_not_multiple_4` -/
example : ({ ssrc := 0, padding := 5 } : SrBuilder).calcSize = .err (.invalidPadding 5) := by decide +kernel

/-- sender.rs `parse_sr_with_2_rb` -/
example :
    Sr.parse sr2 = .ok sr2 ∧ version sr2 = 2 ∧ (hVersion sr2 : R Unit UInt8) = .ok 2 ∧
    paddingOf sr2 = none ∧ (Sr.padding sr2 : R Unit (Option UInt8)) = .ok none ∧
    count sr2 = 2 ∧ (Sr.nReports sr2 : R Unit UInt8) = .ok 2 ∧
    lengthField sr2 = 76 ∧ (hLength sr2 : R Unit Nat) = .ok 76 ∧
    u32At sr2 4 = 0x91827364 ∧ (Sr.ssrc sr2 : R Unit UInt32) = .ok 0x91827364 ∧
    u64At sr2 8 = 0x89abcdef02244668 ∧ (Sr.ntp sr2 : R Unit UInt64) = .ok 0x89abcdef02244668 ∧
    u32At sr2 16 = 0x8aaccee0 ∧ (Sr.rtp sr2 : R Unit UInt32) = .ok 0x8aaccee0 ∧
    u32At sr2 20 = 0xf1e2d3c4 ∧ (Sr.packetCount sr2 : R Unit UInt32) = .ok 0xf1e2d3c4 ∧
    u32At sr2 24 = 0xb5a69788 ∧ (Sr.octetCount sr2 : R Unit UInt32) = .ok 0xb5a69788 ∧
    u32At sr2 28 = 0x01234567 ∧ u32At sr2 52 = 0x01234568 ∧
    (Sr.reportBlocks sr2 : R Unit (List Bytes)) = .ok [range sr2 28 52, range sr2 52 76] ∧
    (ReportBlock.ssrc (range sr2 28 52) : R Unit UInt32) = .ok 0x01234567 ∧
    (ReportBlock.ssrc (range sr2 52 76) : R Unit UInt32) = .ok 0x01234568 := by decide +kernel

/-! ## src/sdes.rs -/

/-- sdes.rs `parse_empty_sdes_chunk`: SSRC, an empty CNAME, terminator and fill -/
example :
    SdesChunk.parse 0 [0x00, 0x01, 0x02, 0x03, 0x01, 0x00, 0x00, 0x00] = .ok (⟨0x00010203, [⟨4, [0x01, 0x00]⟩]⟩, 8) ∧
    (SdesItem.type ⟨4, [0x01, 0x00]⟩ : R Unit UInt8) = .ok 1 ∧
    (SdesItem.value ⟨4, [0x01, 0x00]⟩ : R Unit Slice) = .ok ⟨6, []⟩ ∧
    refTok [0x00, 0x01, 0x02, 0x03, 0x01, 0x00, 0x00, 0x00] = some [⟨0x00010203, [⟨1, []⟩]⟩] := by decide +kernel

/-- sdes.rs `parse_empty_sdes` -/
example :
    Sdes.parse [0x80, 0xca, 0x00, 0x00] = .ok ⟨[0x80, 0xca, 0x00, 0x00], []⟩ ∧
    version [0x80, 0xca, 0x00, 0x00] = 2 ∧ (hVersion [0x80, 0xca, 0x00, 0x00] : R Unit UInt8) = .ok 2 ∧
    count [0x80, 0xca, 0x00, 0x00] = 0 ∧ (hCount [0x80, 0xca, 0x00, 0x00] : R Unit UInt8) = .ok 0 ∧
    refTok (sdesBody [0x80, 0xca, 0x00, 0x00]) = some [] := by decide +kernel

private def sdesAbCd : SdesBuilder :=
  { chunks := [{ ssrc := 0x98765432, items := [{ type := 1, value := [0x61, 0x62] }] },
               { ssrc := 0x67892345, items := [{ type := 1, value := [0x63, 0x64] }] }] }

-- No bytes are asserted by this test, only that what was built (CNAME "ab" and CNAME "cd", each a
-- whole word, so that the terminator needs a word of its own) parses and that the chunks carry the
-- two SSRCs.
/-- sdes.rs `sdes_item_multiple_of_4_has_zero_terminating` -/
example :
    ((fun s => s.chunks.map (·.ssrc)) <$> Sdes.parse (sdesImage sdesAbCd)) = .ok [0x98765432, 0x67892345] ∧
    refTok (sdesBody (sdesImage sdesAbCd)) =
      some [⟨0x98765432, [⟨1, [0x61, 0x62]⟩]⟩, ⟨0x67892345, [⟨1, [0x63, 0x64]⟩]⟩] ∧
    (sdesImage sdesAbCd).length = 28 ∧ range (sdesImage sdesAbCd) 12 16 = [0, 0, 0, 0] ∧
    range (sdesImage sdesAbCd) 24 28 = [0, 0, 0, 0] := by decide +kernel

private def sdesCname : Bytes := [0x81, 0xca, 0x00, 0x02, 0x91, 0x82, 0x73, 0x64, 0x01, 0x02, 0x30, 0x31]

/-- sdes.rs `parse_cname_sdes` (the chunk ends at the packet end without a terminator) -/
example :
    Sdes.parse sdesCname = .ok ⟨sdesCname, [⟨0x91827364, [⟨8, [0x01, 0x02, 0x30, 0x31]⟩]⟩]⟩ ∧
    version sdesCname = 2 ∧ (hVersion sdesCname : R Unit UInt8) = .ok 2 ∧
    count sdesCname = 1 ∧ (hCount sdesCname : R Unit UInt8) = .ok 1 ∧
    (SdesItem.type ⟨8, [0x01, 0x02, 0x30, 0x31]⟩ : R Unit UInt8) = .ok 1 ∧
    (SdesItem.value ⟨8, [0x01, 0x02, 0x30, 0x31]⟩ : R Unit Slice) = .ok ⟨10, [0x30, 0x31]⟩ ∧
    refTok (sdesBody sdesCname) = some [⟨0x91827364, [⟨1, [0x30, 0x31]⟩]⟩] := by decide +kernel

private def sdesOne : Bytes :=
  [0x81, 0xca, 0x00, 0x0c, 0x12, 0x34, 0x56, 0x78, 0x01, 0x05, 0x63, 0x6e, 0x61, 0x6d,
   0x65, 0x02, 0x09, 0x46, 0x72, 0x61, 0x6e, 0xc3, 0xa7, 0x6f, 0x69, 0x73, 0x08, 0x16,
   0x0b, 0x70, 0x72, 0x69, 0x76, 0x2d, 0x70, 0x72, 0x65, 0x66, 0x69, 0x78, 0x70, 0x72,
   0x69, 0x76, 0x2d, 0x76, 0x61, 0x6c, 0x75, 0x65, 0x00, 0x00]

/-- "cname" -/
private def sCname : Bytes := [0x63, 0x6e, 0x61, 0x6d, 0x65]
/-- "François" -/
private def sFrancois : Bytes := [0x46, 0x72, 0x61, 0x6e, 0xc3, 0xa7, 0x6f, 0x69, 0x73]
/-- "priv-prefix" -/
private def sPrivPrefix : Bytes := [0x70, 0x72, 0x69, 0x76, 0x2d, 0x70, 0x72, 0x65, 0x66, 0x69, 0x78]
/-- "priv-value" -/
private def sPrivValue : Bytes := [0x70, 0x72, 0x69, 0x76, 0x2d, 0x76, 0x61, 0x6c, 0x75, 0x65]
/-- "user@host" -/
private def sUserHost : Bytes := [0x75, 0x73, 0x65, 0x72, 0x40, 0x68, 0x6f, 0x73, 0x74]
/-- "+33678901234" -/
private def sPhone : Bytes := [0x2b, 0x33, 0x33, 0x36, 0x37, 0x38, 0x39, 0x30, 0x31, 0x32, 0x33, 0x34]
/-- "name" -/
private def sName : Bytes := [0x6e, 0x61, 0x6d, 0x65]

/-- sdes.rs `parse_cname_name_single_sdes_chunk`: CNAME "cname", NAME "François", PRIV "priv-prefix"/"priv-value" -/
example :
    Sdes.parse sdesOne =
      .ok ⟨sdesOne, [⟨0x12345678, [⟨8, range sdesOne 8 15⟩, ⟨15, range sdesOne 15 26⟩, ⟨26, range sdesOne 26 50⟩]⟩]⟩ ∧
    version sdesOne = 2 ∧ (hVersion sdesOne : R Unit UInt8) = .ok 2 ∧
    count sdesOne = 1 ∧ (hCount sdesOne : R Unit UInt8) = .ok 1 ∧
    (SdesItem.type ⟨8, range sdesOne 8 15⟩ : R Unit UInt8) = .ok 1 ∧
    (SdesItem.value ⟨8, range sdesOne 8 15⟩ : R Unit Slice) = .ok ⟨10, sCname⟩ ∧
    (SdesItem.type ⟨15, range sdesOne 15 26⟩ : R Unit UInt8) = .ok 2 ∧
    (SdesItem.value ⟨15, range sdesOne 15 26⟩ : R Unit Slice) = .ok ⟨17, sFrancois⟩ ∧
    (SdesItem.type ⟨26, range sdesOne 26 50⟩ : R Unit UInt8) = .ok 8 ∧
    (SdesItem.privPrefix ⟨26, range sdesOne 26 50⟩ : R Unit Slice) = .ok ⟨29, sPrivPrefix⟩ ∧
    (SdesItem.value ⟨26, range sdesOne 26 50⟩ : R Unit Slice) = .ok ⟨40, sPrivValue⟩ ∧
    refTok (sdesBody sdesOne) =
      some [⟨0x12345678, [⟨1, sCname⟩, ⟨2, sFrancois⟩, ⟨8, 0x0b :: (sPrivPrefix ++ sPrivValue)⟩]⟩] ∧
    RefItem.privSplit ⟨8, 0x0b :: (sPrivPrefix ++ sPrivValue)⟩ = some (sPrivPrefix, sPrivValue) := by
  decide +kernel

/-- sdes.rs `build_cname_name_single_sdes_chunk` -/
example :
    sdesImage { chunks := [{ ssrc := 0x12345678, items := [{ type := 1, value := sCname }, { type := 2, value := sFrancois }, { type := 8, value := sPrivValue, prefix_ := sPrivPrefix }] }] } =
      sdesOne ∧
    ({ chunks := [{ ssrc := 0x12345678, items := [{ type := 1, value := sCname }, { type := 2, value := sFrancois }, { type := 8, value := sPrivValue, prefix_ := sPrivPrefix }] }] }
      : SdesBuilder).calcSize = .ok 52 := by decide +kernel

private def sdesTwo : Bytes :=
  [0x82, 0xca, 0x00, 0x0e, 0x12, 0x34, 0x56, 0x78, 0x01, 0x05, 0x63, 0x6e, 0x61, 0x6d,
   0x65, 0x02, 0x09, 0x46, 0x72, 0x61, 0x6e, 0xc3, 0xa7, 0x6f, 0x69, 0x73, 0x00, 0x00,
   0x34, 0x56, 0x78, 0x9a, 0x03, 0x09, 0x75, 0x73, 0x65, 0x72, 0x40, 0x68, 0x6f, 0x73,
   0x74, 0x04, 0x0c, 0x2b, 0x33, 0x33, 0x36, 0x37, 0x38, 0x39, 0x30, 0x31, 0x32, 0x33,
   0x34, 0x00, 0x00, 0x00]

/-- sdes.rs `parse_multiple_sdes_chunks`: CNAME "cname", NAME "François"; EMAIL "user@host", PHONE "+33678901234" -/
example :
    Sdes.parse sdesTwo =
      .ok ⟨sdesTwo, [⟨0x12345678, [⟨8, range sdesTwo 8 15⟩, ⟨15, range sdesTwo 15 26⟩]⟩,
                     ⟨0x3456789a, [⟨32, range sdesTwo 32 43⟩, ⟨43, range sdesTwo 43 57⟩]⟩]⟩ ∧
    version sdesTwo = 2 ∧ (hVersion sdesTwo : R Unit UInt8) = .ok 2 ∧
    count sdesTwo = 2 ∧ (hCount sdesTwo : R Unit UInt8) = .ok 2 ∧
    (SdesItem.type ⟨8, range sdesTwo 8 15⟩ : R Unit UInt8) = .ok 1 ∧
    (SdesItem.value ⟨8, range sdesTwo 8 15⟩ : R Unit Slice) = .ok ⟨10, sCname⟩ ∧
    (SdesItem.type ⟨15, range sdesTwo 15 26⟩ : R Unit UInt8) = .ok 2 ∧
    (SdesItem.value ⟨15, range sdesTwo 15 26⟩ : R Unit Slice) = .ok ⟨17, sFrancois⟩ ∧
    (SdesItem.type ⟨32, range sdesTwo 32 43⟩ : R Unit UInt8) = .ok 3 ∧
    (SdesItem.value ⟨32, range sdesTwo 32 43⟩ : R Unit Slice) = .ok ⟨34, sUserHost⟩ ∧
    (SdesItem.type ⟨43, range sdesTwo 43 57⟩ : R Unit UInt8) = .ok 4 ∧
    (SdesItem.value ⟨43, range sdesTwo 43 57⟩ : R Unit Slice) = .ok ⟨45, sPhone⟩ ∧
    refTok (sdesBody sdesTwo) =
      some [⟨0x12345678, [⟨1, sCname⟩, ⟨2, sFrancois⟩]⟩, ⟨0x3456789a, [⟨3, sUserHost⟩, ⟨4, sPhone⟩]⟩] := by
  decide +kernel

/-- sdes.rs `build_multiple_sdes_chunks` -/
example :
    sdesImage { chunks := [{ ssrc := 0x12345678, items := [{ type := 1, value := sCname }, { type := 2, value := sFrancois }] },
                           { ssrc := 0x3456789a, items := [{ type := 3, value := sUserHost }, { type := 4, value := sPhone }] }] } =
      sdesTwo ∧
    ({ chunks := [{ ssrc := 0x12345678, items := [{ type := 1, value := sCname }, { type := 2, value := sFrancois }] },
                  { ssrc := 0x3456789a, items := [{ type := 3, value := sUserHost }, { type := 4, value := sPhone }] }] }
      : SdesBuilder).calcSize = .ok 60 := by decide +kernel

/-- sdes.rs `build_static_sdes` (`into_owned` / `add_item_owned`: CNAME "cname", NAME "name") -/
example :
    sdesImage { chunks := [{ ssrc := 0x12345678, items := [SdesItemBuilder.intoOwned { type := 1, value := sCname }, SdesItemBuilder.intoOwned { type := 2, value := sName }] }] } =
      [0x81, 0xca, 0x00, 0x05, 0x12, 0x34, 0x56, 0x78, 0x01, 0x05, 0x63, 0x6e, 0x61, 0x6d,
       0x65, 0x02, 0x04, 0x6e, 0x61, 0x6d, 0x65, 0x00, 0x00, 0x00] ∧
    ({ chunks := [{ ssrc := 0x12345678, items := [SdesItemBuilder.intoOwned { type := 1, value := sCname }, SdesItemBuilder.intoOwned { type := 2, value := sName }] }] }
      : SdesBuilder).calcSize = .ok 24 := by decide +kernel

/-- sdes.rs `build_sdes_from_shorter_lived_item` (`add_item` then `add_item_owned`; same bytes) -/
example :
    sdesImage { chunks := [{ ssrc := 0x12345678, items := [{ type := 1, value := sCname }, SdesItemBuilder.intoOwned { type := 2, value := sName }] }] } =
      [0x81, 0xca, 0x00, 0x05, 0x12, 0x34, 0x56, 0x78, 0x01, 0x05, 0x63, 0x6e, 0x61, 0x6d,
       0x65, 0x02, 0x04, 0x6e, 0x61, 0x6d, 0x65, 0x00, 0x00, 0x00] ∧
    ({ chunks := [{ ssrc := 0x12345678, items := [{ type := 1, value := sCname }, SdesItemBuilder.intoOwned { type := 2, value := sName }] }] }
      : SdesBuilder).calcSize = .ok 24 := by decide +kernel

/-- sdes.rs `build_too_many_chunks` (32 × `SdesChunk::builder(0)`) -/
example :
    ({ chunks := List.replicate 32 { ssrc := 0 } } : SdesBuilder).calcSize = .err (.tooManySdesChunks 32 31) := by
  decide +kernel

/-- sdes.rs `build_item_value_too_large` (NAME with 256 × 'a') -/
example :
    ({ chunks := [{ ssrc := 0, items := [{ type := 2, value := List.replicate 256 0x61 }] }] } : SdesBuilder).calcSize =
      .err (.sdesValueTooLarge 256 255) := by decide +kernel

/-- sdes.rs `build_priv_item_prefix_too_large` (PRIV "" with a prefix of 255 × 0x01) -/
example :
    ({ chunks := [{ ssrc := 0, items := [{ type := 8, value := [], prefix_ := List.replicate 255 0x01 }] }] }
      : SdesBuilder).calcSize = .err (.sdesPrivPrefixTooLarge 255 254) := by decide +kernel

/-- sdes.rs `build_priv_item_value_too_large` (PRIV with 255 × 'a', no prefix) -/
example :
    ({ chunks := [{ ssrc := 0, items := [{ type := 8, value := List.replicate 255 0x61 }] }] } : SdesBuilder).calcSize =
      .err (.sdesValueTooLarge 255 254) := by decide +kernel

/-- sdes.rs `build_padding_not_multiple_4` -/
example : ({ padding := 5 } : SdesBuilder).calcSize = .err (.invalidPadding 5) := by decide +kernel

/-! ## src/feedback/*.rs -/

/-- `TransportFeedback::builder(&fci)` / `PayloadFeedback::builder_owned(fci)` + `sender_ssrc` + `media_ssrc` -/
private def fbb (k : FbKind) (f : FciB) (sender media : UInt32) : FbBuilder :=
  { kind := k, fci := f.toFci, senderSsrc := sender, mediaSsrc := media }

/-! ### fir.rs -/

private def firV : Bytes :=
  [0x84, 0xce, 0x00, 0x04, 0x98, 0x76, 0x54, 0x32, 0x00, 0x00, 0x00, 0x00, 0xfe, 0xdc,
   0xba, 0x98, 0x30, 0x00, 0x00, 0x00]

/-- fir.rs `fir_build_parse` -/
example :
    fbImage .payload (.fir ⟨[(0xfedcba98, 0x30)]⟩) 0 0x98765432 0 = firV ∧
    (FirBuilder.addSsrc {} 0xfedcba98 0x30) = ⟨[(0xfedcba98, 0x30)]⟩ ∧
    (fbb .payload (.fir ⟨[(0xfedcba98, 0x30)]⟩) 0x98765432 0).calcSize = .ok 20 ∧
    Fb.parse .payload firV = .ok firV ∧
    u32At firV 4 = 0x98765432 ∧ (Fb.senderSsrc firV : R Unit UInt32) = .ok 0x98765432 ∧
    u32At firV 8 = 0 ∧ (Fb.mediaSsrc firV : R Unit UInt32) = .ok 0 ∧
    Fb.parseFci .payload .fir firV = .ok (range firV 12 20) ∧
    firDecode (range firV 12 20) = [(0xfedcba98, 0x30)] ∧
    (Fir.entries (range firV 12 20) : R Unit _) = .ok ([(0xfedcba98, 0x30)], true) := by decide +kernel

/-! ### nack.rs -/

/-- the test helper's loop `for i in (0..=n - 1).step_by(m) { fci.add_rtp_sequence(start + i) }` -/
private def nackSeqs (start n m : Nat) : List UInt16 :=
  ((List.range n).filter (fun i => i % m = 0)).map (fun i => (start + i).toUInt16)

/-- what `nack_build_parse_n_m_timestamps(0x1234, n, m, fci)` requires of a packet `v` built from the
    sequence numbers `seqs`: the builder's `BTreeSet` holds `seqs`; the Spec image and the size are
    `v`'s; `v` parses, its SSRCs are the test's, its FCI is `fci`, and both the iterator of the model
    and the reference decoder give back `seqs` followed by `None` -/
private def NackCase (seqs : List UInt16) (fci v : Bytes) : Prop :=
  seqs.foldl NackBuilder.addRtpSequence {} = ⟨seqs⟩ ∧
  fbImage .transport (.nack ⟨seqs⟩) 0 0x98765432 0x10fedcba = v ∧
  (fbb .transport (.nack ⟨seqs⟩) 0x98765432 0x10fedcba).calcSize = .ok v.length ∧
  Fb.parse .transport v = .ok v ∧
  u32At v 4 = 0x98765432 ∧ (Fb.senderSsrc v : R Unit UInt32) = .ok 0x98765432 ∧
  u32At v 8 = 0x10fedcba ∧ (Fb.mediaSsrc v : R Unit UInt32) = .ok 0x10fedcba ∧
  Fb.parseFci .transport .nack v = .ok fci ∧
  nackDecode fci = seqs.map (·.toNat) ∧
  (Nack.entries fci : R Unit _) = .ok (seqs, true)

private instance (seqs : List UInt16) (fci v : Bytes) : Decidable (NackCase seqs fci v) := by
  unfold NackCase; infer_instance

-- `r = 3 % 1 = 0`, `req_len = 12 + (2 - 0 + 16) / 17 * 4 = 16`, `expected[3] = 16 / 4 - 1 = 3`
/-- nack.rs `nack_build_parse_2_consecutive_timestamps` -/
example :
    nackSeqs 0x1234 2 1 = [0x1234, 0x1235] ∧
    NackCase (nackSeqs 0x1234 2 1) [0x12, 0x34, 0x00, 0x01]
      [0x81, 0xcd, 0x00, 0x03, 0x98, 0x76, 0x54, 0x32, 0x10, 0xfe, 0xdc, 0xba, 0x12, 0x34, 0x00, 0x01] := by
  decide +kernel

-- `req_len = 12 + (16 + 16) / 17 * 4 = 16`, `expected[3] = 3`
/-- nack.rs `nack_build_parse_16_consecutive_timestamps` -/
example :
    NackCase (nackSeqs 0x1234 16 1) [0x12, 0x34, 0x7f, 0xff]
      [0x81, 0xcd, 0x00, 0x03, 0x98, 0x76, 0x54, 0x32, 0x10, 0xfe, 0xdc, 0xba, 0x12, 0x34, 0x7f, 0xff] := by
  decide +kernel

-- `req_len = 12 + (17 + 16) / 17 * 4 = 16`, `expected[3] = 3`
/-- nack.rs `nack_build_parse_17_consecutive_timestamps` -/
example :
    NackCase (nackSeqs 0x1234 17 1) [0x12, 0x34, 0xff, 0xff]
      [0x81, 0xcd, 0x00, 0x03, 0x98, 0x76, 0x54, 0x32, 0x10, 0xfe, 0xdc, 0xba, 0x12, 0x34, 0xff, 0xff] := by
  decide +kernel

-- `req_len = 12 + (18 + 16) / 17 * 4 = 20`, `expected[3] = 20 / 4 - 1 = 4`
/-- nack.rs `nack_build_parse_18_consecutive_timestamps` -/
example :
    NackCase (nackSeqs 0x1234 18 1) [0x12, 0x34, 0xff, 0xff, 0x12, 0x45, 0x00, 0x00]
      [0x81, 0xcd, 0x00, 0x04, 0x98, 0x76, 0x54, 0x32, 0x10, 0xfe, 0xdc, 0xba,
       0x12, 0x34, 0xff, 0xff, 0x12, 0x45, 0x00, 0x00] := by
  decide +kernel

-- `r = 13 % 2 = 1`, `req_len = 12 + (12 - 1 + 16) / 17 * 4 = 16`, `expected[3] = 3`; the FCI is
-- `[0x12, 0x34, 0x02, 0b1010_1010]`
/-- nack.rs `nack_build_parse_12_2_timestamps` -/
example :
    nackSeqs 0x1234 12 2 = [0x1234, 0x1236, 0x1238, 0x123a, 0x123c, 0x123e] ∧
    NackCase (nackSeqs 0x1234 12 2) [0x12, 0x34, 0x02, 0xaa]
      [0x81, 0xcd, 0x00, 0x03, 0x98, 0x76, 0x54, 0x32, 0x10, 0xfe, 0xdc, 0xba, 0x12, 0x34, 0x02, 0xaa] := by
  decide +kernel

-- `TransportFeedback::builder(&fci)`; build only; `req_len = 16`, `expected[3] = 3`
/-- nack.rs `nack_build_ref_2_consecutive_timestamps` -/
example :
    [0x1234, 0x1235].foldl NackBuilder.addRtpSequence {} = ⟨[0x1234, 0x1235]⟩ ∧
    fbImage .transport (.nack ⟨[0x1234, 0x1235]⟩) 0 0x98765432 0x10fedcba =
      [0x81, 0xcd, 0x00, 0x03, 0x98, 0x76, 0x54, 0x32, 0x10, 0xfe, 0xdc, 0xba, 0x12, 0x34, 0x00, 0x01] ∧
    (fbb .transport (.nack ⟨[0x1234, 0x1235]⟩) 0x98765432 0x10fedcba).calcSize = .ok 16 := by decide +kernel

/-! ### pli.rs -/

private def pliV : Bytes := [0x81, 0xce, 0x00, 0x02, 0x98, 0x76, 0x54, 0x32, 0x10, 0xfe, 0xdc, 0xba]

/-- pli.rs `pli_build_parse` -/
example :
    fbImage .payload .pli 0 0x98765432 0x10fedcba = pliV ∧
    (fbb .payload .pli 0x98765432 0x10fedcba).calcSize = .ok 12 ∧
    Fb.parse .payload pliV = .ok pliV ∧
    u32At pliV 4 = 0x98765432 ∧ (Fb.senderSsrc pliV : R Unit UInt32) = .ok 0x98765432 ∧
    u32At pliV 8 = 0x10fedcba ∧ (Fb.mediaSsrc pliV : R Unit UInt32) = .ok 0x10fedcba ∧
    Fb.parseFci .payload .pli pliV = .ok [] := by decide +kernel

/-- pli.rs `pli_build_ref` -/
example :
    fbImage .payload .pli 0 0x98765432 0x10fedcba =
      [0x81, 0xce, 0x00, 0x02, 0x98, 0x76, 0x54, 0x32, 0x10, 0xfe, 0xdc, 0xba] ∧
    (fbb .payload .pli 0x98765432 0x10fedcba).calcSize = .ok 12 := by decide +kernel

/-- pli.rs `pli_parse_wrong_packet` -/
example :
    Fb.parse .transport [0x81, 0xcd, 0x00, 0x02, 0x98, 0x76, 0x54, 0x32, 0x10, 0xfe, 0xdc, 0xba] =
      .ok [0x81, 0xcd, 0x00, 0x02, 0x98, 0x76, 0x54, 0x32, 0x10, 0xfe, 0xdc, 0xba] ∧
    Fb.parseFci .transport .pli [0x81, 0xcd, 0x00, 0x02, 0x98, 0x76, 0x54, 0x32, 0x10, 0xfe, 0xdc, 0xba] =
      .err .wrongImplementation := by decide +kernel

/-- pli.rs `pli_build_wrong_packet_type` (both `calculate_size` and `write_into` fail) -/
example :
    (fbb .transport .pli 0x98765432 0x10fedcba).calcSize = .err .fciWrongFeedbackPacketType ∧
    ((fbb .transport .pli 0x98765432 0x10fedcba).toWriter.writeInto (List.replicate 12 0)).2 =
      .err .fciWrongFeedbackPacketType := by decide +kernel

private def pliData : Bytes :=
  [0x81, 0xce, 0x00, 0x03, 0x98, 0x76, 0x54, 0x32, 0x10, 0xfe, 0xdc, 0xba, 0x00, 0x00, 0x00, 0x00]

/-- pli.rs `pli_parse_with_data` -/
example :
    Fb.parse .payload pliData = .ok pliData ∧
    Fb.parseFci .payload .pli pliData = .err (.tooLarge 0 4) := by decide +kernel

/-! ### rpsi.rs -/

private def rpsiV : Bytes :=
  [0x83, 0xce, 0x00, 0x03, 0x98, 0x76, 0x54, 0x32, 0x10, 0xfe, 0xdc, 0xba, 0x0c, 0x60, 0xf0, 0x00]

/-- what both rpsi.rs tests assert -/
private def RpsiCase : Prop :=
    fbImage .payload (.rpsi { payloadType := 96, nativeBitString := [0xf0], nativeBitOverrun := 4 }) 0 0x98765432 0x10fedcba =
      rpsiV ∧
    RpsiBuilder.nativeData { payloadType := 96 } [0xf0] 4 =
      { payloadType := 96, nativeBitString := [0xf0], nativeBitOverrun := 4 } ∧
    (fbb .payload (.rpsi { payloadType := 96, nativeBitString := [0xf0], nativeBitOverrun := 4 }) 0x98765432
      0x10fedcba).calcSize = .ok 16 ∧
    Fb.parse .payload rpsiV = .ok rpsiV ∧
    u32At rpsiV 4 = 0x98765432 ∧ (Fb.senderSsrc rpsiV : R Unit UInt32) = .ok 0x98765432 ∧
    u32At rpsiV 8 = 0x10fedcba ∧ (Fb.mediaSsrc rpsiV : R Unit UInt32) = .ok 0x10fedcba ∧
    Fb.parseFci .payload .rpsi rpsiV = .ok [0x0c, 0x60, 0xf0, 0x00] ∧
    (Rpsi.payloadType [0x0c, 0x60, 0xf0, 0x00] : R Unit UInt8) = .ok 96 ∧
    (Rpsi.bitString 12 [0x0c, 0x60, 0xf0, 0x00] : R Unit (Slice × Nat)) = .ok (⟨14, [0xf0]⟩, 4) ∧
    rpsiDecode [0x0c, 0x60, 0xf0, 0x00] = some (96, rpsiBits [0xf0] 4) ∧
    rpsiBits [0xf0] 4 = [true, true, true, true]

private instance : Decidable RpsiCase := by unfold RpsiCase; infer_instance

/-- rpsi.rs `rpsi_build_parse` (`builder_owned`) -/
example : RpsiCase := by decide +kernel

/-- rpsi.rs `rpsi_build_parse_ref` (`builder(&fci)`: same configuration, bytes and read-back) -/
example : RpsiCase := by decide +kernel

/-! ### sli.rs -/

/-- the values `0, 1, 3, 7, …, 0x1fff` that `macroblock_entries` walks with `x = (x << 1) | 1` -/
private def sliSweep : List UInt16 := (List.range 14).map (fun k => (2 ^ k - 1).toUInt16)

/-- the swept entries lie within the 13/13/6-bit ranges, where the codec is the identity
    (`Proofs.sli_decode_encode`, `Proofs.sliDecode_entry`) -/
private theorem sliSweep_lt : ∀ x ∈ sliSweep, x.toNat < 8192 := by decide +kernel

private theorem sliPid_lt (pid : Fin 64) : pid.val.toUInt8.toNat < 64 := by
  rw [Proofs.toUInt8_toNat_lt _ (by omega)]; exact pid.isLt

/-- sli.rs `macroblock_entries`: `decode(encode(e)) == e` for the 14 × 14 × 64 entries of the test -/
example :
    sliSweep = [0, 1, 3, 7, 0xf, 0x1f, 0x3f, 0x7f, 0xff, 0x1ff, 0x3ff, 0x7ff, 0xfff, 0x1fff] ∧
    ∀ start ∈ sliSweep, ∀ cnt ∈ sliSweep, ∀ pid : Fin 64,
      (match MacroBlockEntry.encode ⟨start, cnt, pid.val.toUInt8⟩ with
        | [a, b, c, d] => some (MacroBlockEntry.decode a b c d)
        | _ => none) = some ⟨start, cnt, pid.val.toUInt8⟩ :=
  ⟨by decide, fun start hs cnt hc pid =>
    Proofs.sli_decode_encode _ ⟨sliSweep_lt start hs, sliSweep_lt cnt hc, sliPid_lt pid⟩⟩

/-- sli.rs `macroblock_entries`, the same entries through the reference encoder and decoder -/
example :
    ∀ start ∈ sliSweep, ∀ cnt ∈ sliSweep, ∀ pid : Fin 64,
      sliDecode (sliEntryImage ⟨start, cnt, pid.val.toUInt8⟩) = [(start.toNat, cnt.toNat, pid.val)] := by
  intro start hs cnt hc pid
  have h := Proofs.sliDecode_entry ⟨start, cnt, pid.val.toUInt8⟩ []
    ⟨sliSweep_lt start hs, sliSweep_lt cnt hc, sliPid_lt pid⟩
  rwa [List.append_nil, Proofs.toUInt8_toNat_lt _ (by omega)] at h

private def sliV : Bytes :=
  [0x82, 0xce, 0x00, 0x03, 0x98, 0x76, 0x54, 0x32, 0x10, 0xfe, 0xdc, 0xba, 0x91, 0xa2, 0x61, 0xe5]

/-- sli.rs `sli_build_parse` -/
example :
    fbImage .payload (.sli ⟨[⟨0x1234, 0x0987, 0x25⟩]⟩) 0 0x98765432 0x10fedcba = sliV ∧
    SliBuilder.addLostMacroblock {} 0x1234 0x0987 0x25 = ⟨[⟨0x1234, 0x0987, 0x25⟩]⟩ ∧
    (fbb .payload (.sli ⟨[⟨0x1234, 0x0987, 0x25⟩]⟩) 0x98765432 0x10fedcba).calcSize = .ok 16 ∧
    Fb.parse .payload sliV = .ok sliV ∧
    u32At sliV 4 = 0x98765432 ∧ (Fb.senderSsrc sliV : R Unit UInt32) = .ok 0x98765432 ∧
    u32At sliV 8 = 0x10fedcba ∧ (Fb.mediaSsrc sliV : R Unit UInt32) = .ok 0x10fedcba ∧
    Fb.parseFci .payload .sli sliV = .ok [0x91, 0xa2, 0x61, 0xe5] ∧
    sliDecode [0x91, 0xa2, 0x61, 0xe5] = [(0x1234, 0x987, 0x25)] ∧
    (Sli.lostMacroblocks [0x91, 0xa2, 0x61, 0xe5] : R Unit _) = .ok ([⟨0x1234, 0x987, 0x25⟩], true) := by
  decide +kernel

/-- sli.rs `sli_build_ref` -/
example :
    fbImage .payload (.sli ⟨[⟨0x1234, 0x0987, 0x25⟩]⟩) 0 0x98765432 0x10fedcba =
      [0x82, 0xce, 0x00, 0x03, 0x98, 0x76, 0x54, 0x32, 0x10, 0xfe, 0xdc, 0xba, 0x91, 0xa2, 0x61, 0xe5] ∧
    (fbb .payload (.sli ⟨[⟨0x1234, 0x0987, 0x25⟩]⟩) 0x98765432 0x10fedcba).calcSize = .ok 16 := by decide +kernel

/-! ## tests/custom_packet.rs

  The third-party packet of the integration test: type 242, `MIN_PACKET_LEN = PACKET_LEN = 12`, a
  body of SSRC and a 4-byte payload; in the model `Custom.parse 242 12` and
  `CustomBuilder { pt := 242, min := 12, body := be32 ssrc ++ payload }`. -/

/-- custom_packet.rs `test_parse` -/
example :
    Custom.parse 242 12 unk242 = .ok unk242 ∧
    u32At unk242 4 = 0x12345678 ∧ (parseSsrc unk242 : R Unit UInt32) = .ok 0x12345678 := by decide +kernel

/-- custom_packet.rs `test_build` -/
example :
    customImage { pt := 242, min := 12, body := be32 0x12345678 ++ [0x01, 0x02, 0x03, 0x04] } =
      [0x80, 0xf2, 0x00, 0x02, 0x12, 0x34, 0x56, 0x78, 0x01, 0x02, 0x03, 0x04] ∧
    ({ pt := 242, min := 12, body := be32 0x12345678 ++ [0x01, 0x02, 0x03, 0x04] } : CustomBuilder).calcSize =
      .ok 12 := by decide +kernel

/-- custom_packet.rs `test_parse_generic_packet`: dispatch gives `Unknown`; its data re-parses as Custom -/
example :
    Packet.parse unk242 = .ok (.unknown unk242) ∧ ptype unk242 = 242 ∧ (hType unk242 : R Unit UInt8) = .ok 242 ∧
    (Unknown.data unk242 : R Unit Slice) = .ok ⟨0, unk242⟩ ∧
    Custom.parse 242 12 unk242 = .ok unk242 ∧
    u32At unk242 4 = 0x12345678 ∧ (parseSsrc unk242 : R Unit UInt32) = .ok 0x12345678 := by decide +kernel

private def cRrCustom : Bytes :=
  [0x80, 0xc9, 0x00, 0x01, 0x01, 0x23, 0x45, 0x67, 0x80, 0xf2, 0x00, 0x02, 0x12, 0x34, 0x56,
   0x78, 0x01, 0x02, 0x03, 0x04]

/-- custom_packet.rs `test_parse_compound`: an RR, then an unknown packet of type 242 that is a Custom -/
example :
    Compound.parse cRrCustom = .ok ⟨cRrCustom, 0, false⟩ ∧
    tiling cRrCustom = some [range cRrCustom 0 8, range cRrCustom 8 20] ∧
    (Compound.collect 3 ⟨cRrCustom, 0, false⟩ [] : R Unit _) =
      .ok ([(.ok (.rr (range cRrCustom 0 8)), 0), (.ok (.unknown (range cRrCustom 8 20)), 8)],
           true, ⟨cRrCustom, 20, true⟩) ∧
    ptype (range cRrCustom 0 8) = 201 ∧ ptype (range cRrCustom 8 20) = 242 ∧
    Custom.parse 242 12 (range cRrCustom 8 20) = .ok (range cRrCustom 8 20) ∧
    u32At (range cRrCustom 8 20) 4 = 0x12345678 ∧
    (parseSsrc (range cRrCustom 8 20) : R Unit UInt32) = .ok 0x12345678 := by decide +kernel

/-- custom_packet.rs `test_build_compound` -/
example :
    rrImage { ssrc := 0x1234567 } ++
        customImage { pt := 242, min := 12, body := be32 0x12345678 ++ [0x01, 0x02, 0x03, 0x04] } =
      [0x80, 0xc9, 0x00, 0x01, 0x01, 0x23, 0x45, 0x67, 0x80, 0xf2, 0x00, 0x02, 0x12, 0x34,
       0x56, 0x78, 0x01, 0x02, 0x03, 0x04] ∧
    CompoundBuilder.calcSize
      [({ ssrc := 0x1234567 } : RrBuilder).toWriter,
       ({ pt := 242, min := 12, body := be32 0x12345678 ++ [0x01, 0x02, 0x03, 0x04] } : CustomBuilder).toWriter] =
      .ok 20 := by decide +kernel

end Rtcp.Props
