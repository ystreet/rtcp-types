/-
  C14, end to end, for compounds of built-in packet builders: ANY non-empty list of SR / RR / BYE /
  APP / SDES / transport- and payload-feedback builders (over the five built-in FCI builders) that
  the compound builder accepts
    * is written as exactly the concatenation of the members' RFC images, `n` bytes, the rest of the
      buffer untouched,
    * those bytes are accepted by `Compound::parse`,
    * every member image is accepted by the generic parser as the variant of that member, and
    * iterating yields one item per member, in order, each equal to the member parsed on its own.
  No hypothesis about sizes, padding or counts: acceptance by `calculate_size` is the only premise
  (plus what holds of every builder made through the public API: a NACK set is sorted; and C03's
  exclusion of SDES items of type 0).

  STATEMENTS ARE FIXED. Each is read off the lemmas of Rtcp/Proofs/CompoundE2E.lean in a few lines.
-/
import Rtcp.Props.Members
import Rtcp.Proofs.CompoundE2E

namespace Rtcp.Props
open Rtcp Rtcp.Impl Rtcp.Spec

/-- the writer contract for every built-in member -/
theorem member_refines (m : Member) (h : m.Inv) : Refines m.toWriter m.image := Proofs.member_refines m h

/-- an accepted member's image is a framed packet that the generic parser reads as that member's variant -/
theorem member_accepted (m : Member) (h : m.Inv) (k : Nat) (hk : m.toWriter.calcSize = .ok k) :
    Tile m.image ∧ ∃ p, Packet.parse m.image = .ok p ∧ p.kind? = some m.kind := Proofs.member_accepted m h k hk

theorem compound_end_to_end {ε : Type} (ms : List Member) (hne : ms ≠ []) (hinv : ∀ m ∈ ms, m.Inv) (n : Nat)
    (hs : CompoundBuilder.calcSize (ms.map Member.toWriter) = .ok n) (buf : Bytes) (hb : n ≤ buf.length)
    (fuel : Nat) (hf : ms.length < fuel) :
    (CompoundBuilder.toWriter (ms.map Member.toWriter)).writeInto buf
        = ((ms.map Member.image).flatten ++ buf.drop n, .ok n) ∧
    (ms.map Member.image).flatten.length = n ∧
    Compound.parse (ms.map Member.image).flatten = .ok ⟨(ms.map Member.image).flatten, 0, false⟩ ∧
    (∀ m ∈ ms, ∃ p, Packet.parse m.image = .ok p ∧ p.kind? = some m.kind) ∧
    ∃ items c', (Compound.collect fuel ⟨(ms.map Member.image).flatten, 0, false⟩ [] : R ε _) = .ok (items, true, c') ∧
      items.map (·.1) = ms.map (fun m => Packet.parse m.image) ∧ items.length = ms.length :=
  Proofs.compound_end_to_end ms hne hinv n hs buf hb fuel hf

/-- non-vacuity: an RR, an SDES with a CNAME, and a padded BYE with a reason are accepted as a compound
    of 8 + 16 + 16 bytes, and the hypotheses about the members hold -/
example :
    let ms : List Member :=
      [.rr { ssrc := 1 }, .sdes { chunks := [{ ssrc := 7, items := [{ type := 1, value := [0x61, 0x62] }] }] },
       .bye { padding := 4, sources := [9], reason := [0x62, 0x79, 0x65] }]
    CompoundBuilder.calcSize (ms.map Member.toWriter) = .ok 40 ∧ ms ≠ [] ∧ ∀ m ∈ ms, m.Inv := by
  refine ⟨by decide, by decide, ?_⟩
  intro m hm
  simp only [List.mem_cons, List.not_mem_nil, or_false] at hm
  rcases hm with rfl | rfl | rfl
  · trivial
  · intro c hc it hit
    simp only [List.mem_cons, List.not_mem_nil, or_false] at hc
    subst hc
    simp only [List.mem_cons, List.not_mem_nil, or_false] at hit
    subst hit
    decide
  · trivial

end Rtcp.Props
