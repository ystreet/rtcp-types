/-
  C02 / C04 / C06 / C07 / C17 from the caller's side: the premise is only that `write_into` returned
  `Ok(n)` on SOME buffer.  Then `n` is the size `calculate_size` announces, the buffer was long
  enough, the first `n` bytes are the RFC image and the rest is untouched (`writeInto_ok_inv`, for
  every writer that satisfies the writer contract); for the crate's own builders the image is a
  framed packet the generic parser reads as the right variant (`member_written`), and the matching
  typed parser accepts it and every accessor returns the configured value (`sr_written` … `app_written`:
  the round-trip theorems with "the builder accepts" replaced by "a write succeeded").

  STATEMENTS ARE FIXED. Each is read off the lemmas of Rtcp/Proofs/Written.lean in a few lines.
-/
import Rtcp.Proofs.Written

namespace Rtcp.Props
open Rtcp Rtcp.Impl Rtcp.Spec

theorem writeInto_ok_inv {w : Writer} {img : Bytes} (hw : Refines w img) (buf : Bytes) (n : Nat)
    (h : (w.writeInto buf).2 = .ok n) :
    w.calcSize = .ok n ∧ n ≤ buf.length ∧ ((w.writeInto buf).1).take n = img ∧
      ((w.writeInto buf).1).drop n = buf.drop n :=
  Proofs.writeInto_ok_inv hw buf n h

theorem member_written (m : Member) (hinv : m.Inv) (buf : Bytes) (n : Nat)
    (h : (m.toWriter.writeInto buf).2 = .ok n) :
    ((m.toWriter.writeInto buf).1).take n = m.image ∧ ((m.toWriter.writeInto buf).1).drop n = buf.drop n ∧
    m.toWriter.calcSize = .ok n ∧ Tile m.image ∧ ∃ p, Packet.parse m.image = .ok p ∧ p.kind? = some m.kind :=
  Proofs.member_written m hinv buf n h

theorem sr_written {ε : Type} (b : SrBuilder) (buf : Bytes) (n : Nat) (h : (b.toWriter.writeInto buf).2 = .ok n) :
    ((b.toWriter.writeInto buf).1).take n = srImage b ∧ Sr.parse (srImage b) = .ok (srImage b) ∧
    (Sr.ssrc (srImage b) : R ε UInt32) = .ok b.ssrc ∧ (Sr.ntp (srImage b) : R ε UInt64) = .ok b.ntp ∧
    (Sr.rtp (srImage b) : R ε UInt32) = .ok b.rtp ∧
    (Sr.packetCount (srImage b) : R ε UInt32) = .ok b.packetCount ∧
    (Sr.octetCount (srImage b) : R ε UInt32) = .ok b.octetCount ∧
    (Sr.padding (srImage b) : R ε (Option UInt8)) = .ok (getPaddingOf b.padding) ∧
    (Sr.nReports (srImage b) : R ε UInt8) = .ok b.reportBlocks.length.toUInt8 ∧
    (Sr.reportBlocks (srImage b) : R ε (List Bytes)) = .ok (b.reportBlocks.map rbImage) :=
  Proofs.sr_written b buf n h

theorem rr_written {ε : Type} (b : RrBuilder) (buf : Bytes) (n : Nat) (h : (b.toWriter.writeInto buf).2 = .ok n) :
    ((b.toWriter.writeInto buf).1).take n = rrImage b ∧ Rr.parse (rrImage b) = .ok (rrImage b) ∧
    (Rr.ssrc (rrImage b) : R ε UInt32) = .ok b.ssrc ∧
    (Rr.padding (rrImage b) : R ε (Option UInt8)) = .ok (getPaddingOf b.padding) ∧
    (Rr.nReports (rrImage b) : R ε UInt8) = .ok b.reportBlocks.length.toUInt8 ∧
    (Rr.reportBlocks (rrImage b) : R ε (List Bytes)) = .ok (b.reportBlocks.map rbImage) :=
  Proofs.rr_written b buf n h

theorem bye_written {ε : Type} (b : ByeBuilder) (buf : Bytes) (n : Nat) (h : (b.toWriter.writeInto buf).2 = .ok n) :
    ((b.toWriter.writeInto buf).1).take n = byeImage b ∧ Bye.parse (byeImage b) = .ok (byeImage b) ∧
    (Bye.ssrcs (byeImage b) : R ε (List UInt32)) = .ok b.sources ∧
    (Bye.reason (byeImage b) : R ε (Option Slice)) =
      .ok (if b.reason = [] then none else some ⟨4 + 4 * b.sources.length + 1, b.reason⟩) ∧
    (Bye.padding (byeImage b) : R ε (Option UInt8)) = .ok (getPaddingOf b.padding) :=
  Proofs.bye_written b buf n h

theorem app_written {ε : Type} (b : AppBuilder) (buf : Bytes) (n : Nat) (h : (b.toWriter.writeInto buf).2 = .ok n) :
    ((b.toWriter.writeInto buf).1).take n = appImage b ∧ App.parse (appImage b) = .ok (appImage b) ∧
    (App.ssrc (appImage b) : R ε UInt32) = .ok b.ssrc ∧
    (hCount (appImage b) : R ε UInt8) = .ok b.subtype ∧
    (App.name (appImage b) : R ε Bytes) = .ok (b.name ++ List.replicate (4 - b.name.length) 0) ∧
    (App.data (appImage b) : R ε Slice) = .ok ⟨12, b.data⟩ ∧
    (App.padding (appImage b) : R ε (Option UInt8)) = .ok (getPaddingOf b.padding) :=
  Proofs.app_written b buf n h

/-- C03 from a successful write -/
theorem sdes_written {ε : Type} (b : SdesBuilder) (hz : ∀ c ∈ b.chunks, ∀ it ∈ c.items, it.type ≠ 0)
    (buf : Bytes) (n : Nat) (h : (b.toWriter.writeInto buf).2 = .ok n) :
    ((b.toWriter.writeInto buf).1).take n = sdesImage b ∧
    ∃ v, Sdes.parse (sdesImage b) = .ok v ∧
      v.chunks.map chunkAsRef = b.chunks.map chunkCfgAsRef ∧
      (Sdes.padding v : R ε (Option UInt8)) = .ok (getPaddingOf b.padding) :=
  Proofs.sdes_written b hz buf n h

/-- C05 (packet level) from a successful write, both kinds, every built-in FCI builder -/
theorem fb_written {ε : Type} (k : FbKind) (f : FciB) (hf : FciOk f) (p : UInt8) (s m : UInt32)
    (buf : Bytes) (n : Nat) (h : ((FbBuilder.toWriter ⟨k, f.toFci, p, s, m⟩).writeInto buf).2 = .ok n) :
    (((FbBuilder.toWriter ⟨k, f.toFci, p, s, m⟩).writeInto buf).1).take n = fbImage k f p s m ∧
    Fb.parse k (fbImage k f p s m) = .ok (fbImage k f p s m) ∧
    (Fb.senderSsrc (fbImage k f p s m) : R ε UInt32) = .ok s ∧
    (Fb.mediaSsrc (fbImage k f p s m) : R ε UInt32) = .ok m ∧
    (Fb.padding (fbImage k f p s m) : R ε (Option UInt8)) = .ok (getPaddingOf p) ∧
    (hCount (fbImage k f p s m) : R ε UInt8) = .ok (fciFormat f).toUInt8 ∧
    Fb.parseFci k (fciTypeOf f) (fbImage k f p s m) = (fciTypeOf f).parse (fciImage f) :=
  Proofs.fb_written k f hf p s m buf n h

/-- non-vacuity: a padded BYE with a reason written into a 40-byte buffer returns 16 -/
example : ((ByeBuilder.toWriter { padding := 4, sources := [9], reason := [0x62, 0x79, 0x65] }).writeInto
    (List.replicate 40 0xee)).2 = .ok 16 := by decide

end Rtcp.Props
