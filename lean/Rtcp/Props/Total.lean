/-
  C01: parsing untrusted bytes never panics and always terminates — the summary theorems.
  For every byte string each parsing entry point returns a value or an error (never `panic`); on
  every value every accessor, conversion and iterator returns normally; every iterator finishes
  within a number of steps bounded by the input length (the `Bool` returned by the `entries` /
  `collect` drivers is "finished before the fuel ran out", the fuel being linear in the length).

  Termination of the parsers themselves is the well-founded recursion Lean accepted for the
  model's loops (Rtcp/Impl/Sdes.lean, Rtcp/Impl/Compound.lean).

  STATEMENTS ARE FIXED. Each is read off the lemmas of Rtcp/Proofs/*.lean in a few lines.
-/
import Rtcp.Spec.All
import Rtcp.Proofs.ParsersAccessors
import Rtcp.Proofs.ParsersDispatch
import Rtcp.Proofs.SdesEncode
import Rtcp.Proofs.FciDecode
import Rtcp.Proofs.CompoundParse

namespace Rtcp.Props
open Rtcp Rtcp.Impl Rtcp.Spec

/-- every parsing entry point, every byte string -/
theorem entry_points_total (bs : Bytes) :
    Compound.parse bs ≠ .panic ∧ Packet.parse bs ≠ .panic ∧
    (∀ k : Kind, k.parse bs ≠ .panic) ∧ Unknown.parse bs ≠ .panic ∧ ReportBlock.parse bs ≠ .panic ∧
    (∀ f : Fb.FciType, f.parse bs ≠ .panic) ∧
    (∀ (pt : UInt8) (min : Nat), 4 ≤ min → Custom.parse pt min bs ≠ .panic) :=
  ⟨Proofs.compound_parse_no_panic bs, Proofs.packet_parse_no_panic bs, fun k => (Proofs.kind_parses k bs).no_panic,
    (Proofs.unknown_outcome bs).no_panic, (Proofs.rb_outcome bs).no_panic,
    fun f => Proofs.fci_parsers_no_panic f bs, fun pt min h4 => (Proofs.custom_outcome pt min h4 bs).no_panic⟩

/-- `parse_fci::<F>` on an accepted feedback packet, for both kinds and all five FCI types -/
theorem parseFci_total (k : FbKind) (f : Fb.FciType) (d : Bytes) (h : Fb.parse k d = .ok d) :
    Fb.parseFci k f d ≠ .panic := by
  rw [Proofs.parseFci_eq k f d h]
  split
  · exact Proofs.fci_parsers_no_panic f _
  · nofun

/-- header accessors of `RtcpPacketParserExt` on anything any typed / generic / unknown parser accepted -/
theorem header_accessors_total {ε : Type} (bs : Bytes) (p : Packet) (h : Packet.parse bs = .ok p) :
    (hVersion bs : R ε UInt8) ≠ .panic ∧ (hType bs : R ε UInt8) ≠ .panic ∧
    (hCount bs : R ε UInt8) ≠ .panic ∧ (hLength bs : R ε Nat) ≠ .panic :=
  have ⟨a1, a2, a3, a4⟩ := Proofs.header_ok (ε := ε) bs ((Proofs.packet_parses bs).of_ok h).1
  ⟨R.ne_panic_of_ok a1, R.ne_panic_of_ok a2, R.ne_panic_of_ok a3, R.ne_panic_of_ok a4⟩

/-- the content accessors of each fixed-layout view -/
theorem sr_accessors_total {ε : Type} (bs : Bytes) (h : Sr.parse bs = .ok bs) :
    (Sr.ssrc bs : R ε UInt32) ≠ .panic ∧ (Sr.ntp bs : R ε UInt64) ≠ .panic ∧ (Sr.rtp bs : R ε UInt32) ≠ .panic ∧
    (Sr.packetCount bs : R ε UInt32) ≠ .panic ∧ (Sr.octetCount bs : R ε UInt32) ≠ .panic ∧
    (Sr.nReports bs : R ε UInt8) ≠ .panic ∧ (Sr.padding bs : R ε (Option UInt8)) ≠ .panic ∧
    (∃ rbs, (Sr.reportBlocks bs : R ε (List Bytes)) = .ok rbs ∧ rbs.length ≤ 31 ∧ ∀ rb ∈ rbs, rb.length = 24) :=
  have ⟨h1, h2, h3, h4, h5, h6, h7, h8⟩ := Proofs.sr_accessors (ε := ε) bs h
  ⟨R.ne_panic_of_ok h1, R.ne_panic_of_ok h2, R.ne_panic_of_ok h3, R.ne_panic_of_ok h4, R.ne_panic_of_ok h5, R.ne_panic_of_ok h6, R.ne_panic_of_ok h7, _, h8,
    Proofs.blocks_shape bs 28 ((Proofs.sr_outcome bs).accepts.mp h).2⟩

theorem rr_accessors_total {ε : Type} (bs : Bytes) (h : Rr.parse bs = .ok bs) :
    (Rr.ssrc bs : R ε UInt32) ≠ .panic ∧ (Rr.nReports bs : R ε UInt8) ≠ .panic ∧
    (Rr.padding bs : R ε (Option UInt8)) ≠ .panic ∧
    (∃ rbs, (Rr.reportBlocks bs : R ε (List Bytes)) = .ok rbs ∧ rbs.length ≤ 31 ∧ ∀ rb ∈ rbs, rb.length = 24) :=
  have ⟨h1, h2, h3, h4⟩ := Proofs.rr_accessors (ε := ε) bs h
  ⟨R.ne_panic_of_ok h1, R.ne_panic_of_ok h2, R.ne_panic_of_ok h3, _, h4, Proofs.blocks_shape bs 8 ((Proofs.rr_outcome bs).accepts.mp h).2⟩

/-- every accessor of a report block view (24 bytes, as parsed directly or yielded by SR / RR) -/
theorem rb_accessors_total {ε : Type} (bs : Bytes) (h : bs.length = 24) :
    (ReportBlock.ssrc bs : R ε UInt32) ≠ .panic ∧ (ReportBlock.fractionLost bs : R ε UInt8) ≠ .panic ∧
    (ReportBlock.cumulativeLost bs : R ε UInt32) ≠ .panic ∧
    (ReportBlock.extendedSequenceNumber bs : R ε UInt32) ≠ .panic ∧
    (ReportBlock.interarrivalJitter bs : R ε UInt32) ≠ .panic ∧
    (ReportBlock.lastSenderReportTimestamp bs : R ε UInt32) ≠ .panic ∧
    (ReportBlock.delaySinceLastSenderReportTimestamp bs : R ε UInt32) ≠ .panic :=
  have ⟨h1, h2, h3, h4, h5, h6, h7⟩ := Proofs.rb_accessors (ε := ε) bs h
  ⟨R.ne_panic_of_ok h1, R.ne_panic_of_ok h2, R.ne_panic_of_ok h3, R.ne_panic_of_ok h4, R.ne_panic_of_ok h5, R.ne_panic_of_ok h6, R.ne_panic_of_ok h7⟩

theorem app_accessors_total {ε : Type} (bs : Bytes) (h : App.parse bs = .ok bs) :
    (App.ssrc bs : R ε UInt32) ≠ .panic ∧ (App.name bs : R ε Bytes) ≠ .panic ∧
    (App.padding bs : R ε (Option UInt8)) ≠ .panic ∧ (App.data bs : R ε Slice) ≠ .panic :=
  have ⟨h1, h2, h3, h4, _⟩ := Proofs.app_accessors (ε := ε) bs h
  ⟨R.ne_panic_of_ok h1, R.ne_panic_of_ok h2, R.ne_panic_of_ok h3, R.ne_panic_of_ok h4⟩

theorem bye_accessors_total {ε : Type} (bs : Bytes) (h : Bye.parse bs = .ok bs) :
    (∃ l, (Bye.ssrcs bs : R ε (List UInt32)) = .ok l ∧ l.length ≤ 31) ∧
    (Bye.padding bs : R ε (Option UInt8)) ≠ .panic ∧ (Bye.reason bs : R ε (Option Slice)) ≠ .panic :=
  have ⟨h1, h2, h3, _⟩ := Proofs.bye_accessors (ε := ε) bs h
  ⟨⟨_, h1, by have := Proofs.Read.count_lt bs; simp only [List.length_map, List.length_range]; omega⟩,
    R.ne_panic_of_ok h2, R.ne_panic_of_ok h3⟩

theorem fb_accessors_total {ε : Type} (k : FbKind) (bs : Bytes) (h : Fb.parse k bs = .ok bs) :
    (Fb.senderSsrc bs : R ε UInt32) ≠ .panic ∧ (Fb.mediaSsrc bs : R ε UInt32) ≠ .panic ∧
    (Fb.padding bs : R ε (Option UInt8)) ≠ .panic :=
  have ⟨h1, h2, h3⟩ := Proofs.fb_accessors (ε := ε) k bs h
  ⟨R.ne_panic_of_ok h1, R.ne_panic_of_ok h2, R.ne_panic_of_ok h3⟩

/-- SDES: every accessor of every chunk and item of an accepted packet; the only exempt calls are
    the PRIV-prefix accessors on a non-PRIV item (documented panic precondition) -/
theorem sdes_accessors_total {ε : Type} (bs : Bytes) (v : Sdes) (h : Sdes.parse bs = .ok v) :
    (Sdes.padding v : R ε (Option UInt8)) ≠ .panic ∧
    ∀ c ∈ v.chunks, (c.length : R ε Nat) ≠ .panic ∧
      ∀ it ∈ c.items, (it.type : R ε UInt8) ≠ .panic ∧ (it.length : R ε Nat) ≠ .panic ∧
        (it.value : R ε Slice) ≠ .panic ∧
        ((it.type : R ε UInt8) = .ok 8 →
          (it.privPrefixLen : R ε UInt8) ≠ .panic ∧ (it.privPrefix : R ε Slice) ≠ .panic) := by
  obtain ⟨hd, hw, -, -, hall⟩ := Proofs.sdes_parse_accepts bs v h
  obtain ⟨-, h4, hl⟩ := Proofs.wf_len hw
  exact ⟨by rw [Sdes.padding, hd, Proofs.Read.parsePadding_ok bs h4 hl]; nofun,
    fun c hc => ⟨by rw [Proofs.chunk_length bs c (hall c hc)]; nofun,
      fun it hit => Proofs.item_total (hall c hc it hit)⟩⟩

/-- the FCI iterators run to completion within their length-linear fuel on every byte string -/
theorem fci_iterators_finish {ε : Type} (d : Bytes) :
    (∃ l, (Nack.entries d : R ε (List UInt16 × Bool)) = .ok (l, true) ∧ l.length ≤ 17 * (d.length / 4)) ∧
    (∃ l, (Fir.entries d : R ε (List (UInt32 × UInt8) × Bool)) = .ok (l, true) ∧ 8 * l.length ≤ d.length) ∧
    (∃ l, (Sli.lostMacroblocks d : R ε (List MacroBlockEntry × Bool)) = .ok (l, true) ∧ 4 * l.length ≤ d.length) :=
  ⟨⟨_, Proofs.nack_entries_ok d, by rw [List.length_map]; exact Proofs.nackDecode_length_le d⟩,
   ⟨_, Proofs.fir_entries_ok d, by rw [List.length_map]; exact Proofs.words64_length_le d⟩,
   ⟨_, Proofs.sli_entries_ok d, by rw [List.length_map]; exact Proofs.words32_length_le d⟩⟩

theorem rpsi_accessors_total {ε : Type} (d : Bytes) (h : Rpsi.parse d = .ok d) :
    (Rpsi.payloadType d : R ε UInt8) ≠ .panic ∧ (Rpsi.bitString 0 d : R ε (Slice × Nat)) ≠ .panic :=
  have ⟨h4, hpb⟩ := (Proofs.rpsi_outcome d).accepts.mp h
  ⟨R.ne_panic_of_ok (Proofs.rpsi_payloadType d (Nat.le_trans (by decide) h4)),
    R.ne_panic_of_ok (Proofs.rpsi_bitString 0 d hpb)⟩

/-- conversions of a parsed packet to any typed view -/
theorem tryAs_total (bs : Bytes) (p : Packet) (k : Kind) (h : Packet.parse bs = .ok p) :
    p.tryAs k ≠ .panic := by
  rw [Proofs.tryAs_eq bs p k h]
  split
  · exact (Proofs.kind_parses k _).no_panic
  · split <;> nofun

/-- the compound iterator: on every accepted datagram it finishes after at most one step per
    32-bit word (plus the final `None`), never panics, and stays finished -/
theorem compound_iterator_total {ε : Type} (bs : Bytes) (c : Compound) (h : Compound.parse bs = .ok c) :
    ∃ items c', (Compound.collect (bs.length / 4 + 2) c [] : R ε _) = .ok (items, true, c') ∧
      4 * items.length ≤ bs.length ∧ c'.isOver = true ∧ (Compound.next c' : R ε _) = .ok (none, c') := by
  obtain ⟨rfl, hne, hs⟩ := (Proofs.compound_parse_ok_iff bs c).mp h
  obtain ⟨ts, ht⟩ := Option.isSome_iff_exists.mp hs
  have hlen := Proofs.tiling_length_le bs ts ht
  obtain ⟨c', e, ho⟩ := Proofs.compound_collect_tiling (ε := ε) bs ts hne ht
    (fun t _ => Proofs.packet_parse_no_panic t) (bs.length / 4 + 2) (by omega)
  exact ⟨_, c', e, by have := Proofs.tileItems_length_le 0 ts; omega, ho, Proofs.compound_fused c' ho⟩

end Rtcp.Props
