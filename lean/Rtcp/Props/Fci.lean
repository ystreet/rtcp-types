/-
  Feedback control information: the decoders follow RFC 4585 / 5104 for arbitrary bytes (C15),
  the builders' images decode to what was put in (C05, C07), and the compound parser tiles the
  datagram and iterates it faithfully (C11).

  STATEMENTS ARE FIXED. Each is read off the lemmas of Rtcp/Proofs/*.lean in a few lines.
-/
import Rtcp.Spec.All
import Rtcp.Proofs.FciDecode
import Rtcp.Proofs.FirTable
import Rtcp.Proofs.CompoundParse

namespace Rtcp.Props
open Rtcp Rtcp.Impl Rtcp.Spec

/-! ## decoding arbitrary FCI bytes (C15, C01) -/

/-- NACK: the iterator yields, for every byte string, exactly the reference decoding, and stops -/
theorem nack_entries_eq {ε : Type} (d : Bytes) :
    (Nack.entries d : R ε (List UInt16 × Bool)) = .ok ((nackDecode d).map Nat.toUInt16, true) :=
  Proofs.nack_entries_ok d

theorem fir_entries_eq {ε : Type} (d : Bytes) :
    (Fir.entries d : R ε (List (UInt32 × UInt8) × Bool))
      = .ok ((firDecode d).map (fun (s, q) => (s.toUInt32, q.toUInt8)), true) :=
  (Proofs.fir_entries_ok d).trans (congrArg (fun l => R.ok (l, true)) (Proofs.firDecode_map d).symm)

theorem sli_entries_eq {ε : Type} (d : Bytes) :
    (Sli.lostMacroblocks d : R ε (List MacroBlockEntry × Bool))
      = .ok ((sliDecode d).map (fun (a, b, c) => ⟨a.toUInt16, b.toUInt16, c.toUInt8⟩), true) :=
  (Proofs.sli_entries_ok d).trans (congrArg (fun l => R.ok (l, true)) (Proofs.sliDecode_map d).symm)

/-- RPSI: on every accepted FCI the payload type is the low 7 bits and the bit string, with the
    reported number of trailing bits dropped, is the reference bit string; the slice lies in the input -/
theorem rpsi_decode_eq {ε : Type} (d : Bytes) (h : Rpsi.parse d = .ok d) :
    ∃ pt bits s k, rpsiDecode d = some (pt, bits) ∧
      (Rpsi.payloadType d : R ε UInt8) = .ok pt.toUInt8 ∧
      (Rpsi.bitString 0 d : R ε (Slice × Nat)) = .ok (s, k) ∧
      (bitsOf s.bytes).take (8 * s.bytes.length - k) = bits ∧ SubSlice s d := Proofs.rpsi_decode_eq d h

theorem rpsi_parse_ok_iff (d v : Bytes) :
    Rpsi.parse d = .ok v ↔ v = d ∧ 4 ≤ d.length ∧ u8At d 0 / 8 + 2 ≤ d.length := (Proofs.rpsi_outcome d).ok_iff v

/-- PLI accepts only an empty body -/
theorem pli_parse_ok_iff (d v : Bytes) : Pli.parse d = .ok v ↔ v = d ∧ d = [] := (Proofs.pli_outcome d).ok_iff v

theorem fir_parse_ok_iff (d v : Bytes) : Fir.parse d = .ok v ↔ v = d ∧ 8 ≤ d.length :=
  (Proofs.fir_outcome d).ok_iff v
theorem sli_parse_ok_iff (d v : Bytes) : Sli.parse d = .ok v ↔ v = d ∧ 4 ≤ d.length :=
  (Proofs.sli_outcome d).ok_iff v
theorem nack_parse_ok (d : Bytes) : Nack.parse d = .ok d := rfl

theorem fci_parsers_no_panic (f : Fb.FciType) (d : Bytes) : f.parse d ≠ .panic := Proofs.fci_parsers_no_panic f d

/-- `parse_fci::<F>`: succeeds only if the packet's kind and format number match `F`; then it is
    `F::parse` on exactly the bytes between the two SSRCs and the padding. All 32 formats, both kinds. -/
theorem parseFci_eq (k : FbKind) (f : Fb.FciType) (d : Bytes) (h : Fb.parse k d = .ok d) :
    Fb.parseFci k f d =
      (if (f = .nack ↔ k = .transport) ∧ count d = f.format.toNat
       then f.parse (range d 12 (d.length - padLen d))
       else .err .wrongImplementation) := Proofs.parseFci_eq k f d h

/-! ## what the builders write decodes to what was put in (C05, C07) -/

/-- NACK: exactly the set, ascending, each once -/
theorem nack_roundtrip (seqs : List UInt16) (h : seqs.Pairwise (· < ·)) :
    nackDecode (nackImage ⟨seqs⟩) = seqs.map (·.toNat) := Proofs.nack_roundtrip seqs h

/-- NACK: the words are strictly increasing in PID -/
theorem nack_words_increasing (l : List Nat) (h : l.Pairwise (· < ·)) :
    ((nackEncode l).map (·.pid)).Pairwise (· < ·) := h.sublist (Proofs.nackEncode_pids l)

/-- NACK: no list of words that decodes to the same ascending list is shorter -/
theorem nack_minimal (l : List Nat) (h : l.Pairwise (· < ·)) (hb : ∀ s ∈ l, s < 65536)
    (ws : List NackWord) (hd : (ws.map NackWord.decode).flatten = l) :
    (nackEncode l).length ≤ ws.length := Proofs.nack_minimal l h hb ws hd

/-- FIR: one entry per map entry (any order of the map gives the corresponding order of entries) -/
theorem fir_roundtrip (entries : List (UInt32 × UInt8)) :
    firDecode (firImage ⟨entries⟩) = entries.map (fun (s, q) => (s.toNat, q.toNat)) := Proofs.fir_roundtrip entries

/-- the FIR map: key-unique, re-adding an SSRC keeps the last sequence -/
theorem fir_upsert_lookup (m : List (UInt32 × UInt8)) (k k' : UInt32) (v : UInt8) :
    (FirBuilder.upsert k v m).lookup k' = if k' = k then some v else m.lookup k' := Proofs.fir_upsert_lookup m k k' v

theorem fir_upsert_keys_unique (m : List (UInt32 × UInt8)) (k : UInt32) (v : UInt8)
    (h : (m.map (·.1)).Nodup) : ((FirBuilder.upsert k v m).map (·.1)).Nodup :=
  Proofs.upsert_keys k v m ▸ Proofs.nodup_append_new h k

/-- SLI: the same (first, number, picture-id) entries in order, within the 13/13/6-bit ranges -/
theorem sli_roundtrip (es : List MacroBlockEntry)
    (h : ∀ e ∈ es, e.start.toNat < 8192 ∧ e.count.toNat < 8192 ∧ e.pictureId.toNat < 64) :
    sliDecode (sliImage ⟨es⟩) = es.map (fun e => (e.start.toNat, e.count.toNat, e.pictureId.toNat)) :=
  Proofs.sli_roundtrip es h

/-- RPSI: the same payload type and the same bit string bit for bit -/
theorem rpsi_roundtrip (b : RpsiBuilder) (h : rpsiRules b = []) :
    rpsiDecode (rpsiImage b) = some (b.payloadType.toNat, rpsiBits b.nativeBitString b.nativeBitOverrun.toNat) :=
  Proofs.rpsi_roundtrip b h

/-! ## compound parsing (C11) -/

/-- accepted exactly when non-empty and the chain of length fields tiles the string -/
theorem compound_parse_ok_iff (bs : Bytes) (c : Compound) :
    Compound.parse bs = .ok c ↔ c = ⟨bs, 0, false⟩ ∧ bs ≠ [] ∧ (tiling bs).isSome := Proofs.compound_parse_ok_iff bs c

theorem compound_parse_no_panic (bs : Bytes) : Compound.parse bs ≠ .panic := Proofs.compound_parse_no_panic bs

/-- C18: the errors of compound parsing are truncations with expected > actual -/
theorem compound_err_truthful (bs : Bytes) (e : ParseError) (h : Compound.parse bs = .err e) :
    ∃ ex, e = .truncated ex bs.length ∧ bs.length < ex := (Proofs.compound_parse_outcome bs).of_err h

/-- the tiles concatenate to the input and each has its header's length -/
theorem tiling_sound (bs : Bytes) (ts : List Bytes) (h : tiling bs = some ts) :
    ts.flatten = bs ∧ ∀ t ∈ ts, 4 ≤ t.length ∧ lengthField t = t.length := (Proofs.tiling_eq_some_iff bs ts).mp h

/-- iterating an accepted compound yields, in order, exactly what the generic parser returns for
    each tile, stopping after the first failing tile (yielding that error); never more items than
    tiles; and the iterator is then finished for good -/
theorem compound_iter {ε : Type} (bs : Bytes) (ts : List Bytes) (hne : bs ≠ []) (ht : tiling bs = some ts)
    (hnp : ∀ t ∈ ts, Packet.parse t ≠ .panic) (fuel : Nat) (hf : ts.length < fuel) :
    ∃ items c', (Compound.collect fuel ⟨bs, 0, false⟩ [] : R ε _) = .ok (items, true, c') ∧
      items.map (·.1) = throughFirstErr (ts.map Packet.parse) ∧
      items.length ≤ ts.length ∧ c'.isOver = true := Proofs.compound_iter bs ts hne ht hnp fuel hf

/-- once finished, `next` keeps returning end-of-iteration and the state does not change -/
theorem compound_fused {ε : Type} (c : Compound) (h : c.isOver = true) :
    (Compound.next c : R ε _) = .ok (none, c) := Proofs.compound_fused c h

end Rtcp.Props
