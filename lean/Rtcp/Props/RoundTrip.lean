/-
  Build-then-parse round trips for the fixed-layout packets (C02, C04, C05 at packet level, C19):
  the RFC image of every accepted configuration is accepted by the matching parser and every
  accessor returns the configured value.  Combined with writer refinement (Props/Writers.lean:
  the bytes written ARE the image) this is the round trip through the real writer.

  STATEMENTS ARE FIXED. Each is read off the lemmas of Rtcp/Proofs/*.lean in a few lines.
-/
import Rtcp.Spec.All
import Rtcp.Proofs.RoundTrip

namespace Rtcp.Props
open Rtcp Rtcp.Impl Rtcp.Spec

/-- C02: all seven block fields over their full ranges (24-bit cumulative loss) -/
theorem rb_roundtrip {ε : Type} (b : ReportBlockBuilder) (h : rbRules b = []) :
    ReportBlock.parse (rbImage b) = .ok (rbImage b) ∧
    (ReportBlock.ssrc (rbImage b) : R ε UInt32) = .ok b.ssrc ∧
    (ReportBlock.fractionLost (rbImage b) : R ε UInt8) = .ok b.fractionLost ∧
    (ReportBlock.cumulativeLost (rbImage b) : R ε UInt32) = .ok b.cumulativeLost ∧
    (ReportBlock.extendedSequenceNumber (rbImage b) : R ε UInt32) = .ok b.extendedSequenceNumber ∧
    (ReportBlock.interarrivalJitter (rbImage b) : R ε UInt32) = .ok b.interarrivalJitter ∧
    (ReportBlock.lastSenderReportTimestamp (rbImage b) : R ε UInt32) = .ok b.lastSenderReportTimestamp ∧
    (ReportBlock.delaySinceLastSenderReportTimestamp (rbImage b) : R ε UInt32)
      = .ok b.delaySinceLastSenderReportTimestamp := by
  open Proofs Proofs.Read in
  have hl := rbImage_length b
  obtain ⟨a1, a2, a3, a4, a5, a6, a7⟩ := rb_accessors (ε := ε) _ hl
  have hb : rbImage b <+: (rbImage b).drop 0 := List.prefix_rfl
  conv at hb => lhs; unfold rbImage
  simp only [prefix_drop_append, List.length_append, be32_length, List.length_cons, List.length_nil,
    List.length_drop, Nat.reduceAdd, Nat.reduceSub] at hb
  obtain ⟨⟨⟨⟨⟨⟨f1, f2⟩, f3⟩, f4⟩, f5⟩, f6⟩, f7⟩ := hb
  exact ⟨(rb_outcome _).accepts.mpr hl, by rw [a1, u32At_of_prefix f1],
    by rw [a2, u8At_of_prefix f2, toNat_toUInt8], by rw [a3, u32At_low24 (rbRules_nil.mp h) f3],
    by rw [a4, u32At_of_prefix f4], by rw [a5, u32At_of_prefix f5], by rw [a6, u32At_of_prefix f6],
    by rw [a7, u32At_of_prefix f7]⟩

/-- C02: sender report -/
theorem sr_roundtrip {ε : Type} (b : SrBuilder) (h : srRules b = []) :
    Sr.parse (srImage b) = .ok (srImage b) ∧
    (Sr.ssrc (srImage b) : R ε UInt32) = .ok b.ssrc ∧
    (Sr.ntp (srImage b) : R ε UInt64) = .ok b.ntp ∧
    (Sr.rtp (srImage b) : R ε UInt32) = .ok b.rtp ∧
    (Sr.packetCount (srImage b) : R ε UInt32) = .ok b.packetCount ∧
    (Sr.octetCount (srImage b) : R ε UInt32) = .ok b.octetCount ∧
    (Sr.padding (srImage b) : R ε (Option UInt8)) = .ok (getPaddingOf b.padding) ∧
    (Sr.nReports (srImage b) : R ε UInt8) = .ok b.reportBlocks.length.toUInt8 ∧
    (Sr.reportBlocks (srImage b) : R ε (List Bytes)) = .ok (b.reportBlocks.map rbImage) := Proofs.sr_roundtrip b h

/-- C02: receiver report -/
theorem rr_roundtrip {ε : Type} (b : RrBuilder) (h : rrRules b = []) :
    Rr.parse (rrImage b) = .ok (rrImage b) ∧
    (Rr.ssrc (rrImage b) : R ε UInt32) = .ok b.ssrc ∧
    (Rr.padding (rrImage b) : R ε (Option UInt8)) = .ok (getPaddingOf b.padding) ∧
    (Rr.nReports (rrImage b) : R ε UInt8) = .ok b.reportBlocks.length.toUInt8 ∧
    (Rr.reportBlocks (rrImage b) : R ε (List Bytes)) = .ok (b.reportBlocks.map rbImage) := Proofs.rr_roundtrip b h

/-- C04: BYE — sources in order, the reason bytes (absent when none was set), padding -/
theorem bye_roundtrip {ε : Type} (b : ByeBuilder) (h : byeRules b = []) :
    Bye.parse (byeImage b) = .ok (byeImage b) ∧
    (Bye.ssrcs (byeImage b) : R ε (List UInt32)) = .ok b.sources ∧
    (Bye.reason (byeImage b) : R ε (Option Slice)) =
      .ok (if b.reason = [] then none else some ⟨4 + 4 * b.sources.length + 1, b.reason⟩) ∧
    (Bye.padding (byeImage b) : R ε (Option UInt8)) = .ok (getPaddingOf b.padding) := Proofs.bye_roundtrip b h

/-- C04: APP — SSRC, subtype, name zero-filled to 4 bytes, payload, padding -/
theorem app_roundtrip {ε : Type} (b : AppBuilder) (h : appRules b = []) :
    App.parse (appImage b) = .ok (appImage b) ∧
    (App.ssrc (appImage b) : R ε UInt32) = .ok b.ssrc ∧
    (hCount (appImage b) : R ε UInt8) = .ok b.subtype ∧
    (App.name (appImage b) : R ε Bytes) = .ok (b.name ++ List.replicate (4 - b.name.length) 0) ∧
    (App.data (appImage b) : R ε Slice) = .ok ⟨12, b.data⟩ ∧
    (App.padding (appImage b) : R ε (Option UInt8)) = .ok (getPaddingOf b.padding) := Proofs.app_roundtrip b h

/-- C05 (packet level): sender SSRC, media SSRC, format, padding; and `parse_fci` hands exactly
    the FCI image to the matching FCI parser, padding excluded -/
theorem fb_roundtrip {ε : Type} (k : FbKind) (f : FciB)
    (hf : match f with | .nack b => b.rtpSeq.Pairwise (· < ·) | _ => True)
    (p : UInt8) (s m : UInt32) (h : fbRules k f p = []) :
    let img := fbImage k f p s m
    Fb.parse k img = .ok img ∧
    (Fb.senderSsrc img : R ε UInt32) = .ok s ∧
    (Fb.mediaSsrc img : R ε UInt32) = .ok m ∧
    (Fb.padding img : R ε (Option UInt8)) = .ok (getPaddingOf p) ∧
    (hCount img : R ε UInt8) = .ok (fciFormat f).toUInt8 ∧
    Fb.parseFci k (fciTypeOf f) img = (fciTypeOf f).parse (fciImage f) := Proofs.fb_roundtrip k f hf p s m h

/-- C05, the recorded finding D15: an empty FIR map or SLI list is accepted by the builder
    (no rule forbids it) but its FCI is refused by the FCI parser -/
theorem empty_fir_refused : fciRules (.fir ⟨[]⟩) = [] ∧ Fir.parse (fciImage (.fir ⟨[]⟩)) = .err (.truncated 8 0) := by
  decide
theorem empty_sli_refused : fciRules (.sli ⟨[]⟩) = [] ∧ Sli.parse (fciImage (.sli ⟨[]⟩)) = .err (.truncated 4 0) := by
  decide

/-- C19: raw packets from the unknown-packet builder are accepted by the generic parser as
    unknown packets exposing the exact bytes (for every type the crate does not know) -/
theorem unknown_roundtrip (b : UnknownBuilder) (h : unknownRules b = []) (hk : kindOfType b.type = none) :
    Packet.parse (unknownImage b) = .ok (.unknown (unknownImage b)) :=
  Proofs.packet_parse_unknown (Proofs.packet_length ..) (Proofs.unknown_size (h ▸ Proofs.unknown_calcSize b)) hk

/-- C19: the third-party family converts back with every field intact, directly and through the
    generic parser -/
theorem custom_roundtrip {ε : Type} (b : CustomBuilder) (h : customRules b = []) (h4 : 4 ≤ b.min)
    (hm : b.min % 4 = 0) (hs : b.bodyEnd + b.padding.toNat ≤ 262144) :
    Custom.parse b.pt b.min (customImage b) = .ok (customImage b) ∧
    (Custom.body (customImage b) : R ε Slice)
      = .ok ⟨4, b.body ++ List.replicate (b.min - 4 - b.body.length) 0⟩ ∧
    (Custom.padding (customImage b) : R ε (Option UInt8)) = .ok (getPaddingOf b.padding) ∧
    (kindOfType b.pt = none → Packet.parse (customImage b) = .ok (.unknown (customImage b))) :=
  Proofs.custom_roundtrip b h h4 hm hs

end Rtcp.Props
