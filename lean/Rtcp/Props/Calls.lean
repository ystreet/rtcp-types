/-
  C20 at full strength: ANY call sequence on a builder.

  `Rtcp/Impl/Calls.lean` reifies every public builder method as a constructor of a `…Call` type;
  `b.run cs` is the fold of the method functions of `Rtcp/Impl/Setters.lean` over the sequence
  `cs` (the request driver evaluates builder requests with exactly these `run`s).  The theorems
  below give the closed form of `run` for every builder and every sequence, of any length:

  * a scalar field ends up with the argument of the LAST call of its setter, or keeps its initial
    value when that setter was never called (`lastSome`), whatever other calls are interleaved;
  * a list field ends up as the initial list followed by the arguments of its adder calls in call
    order (`List.filterMap`), whatever other calls are interleaved;
  * the NACK set is strictly ascending and holds exactly the numbers added (so it depends on the
    SET of numbers only: any permutation, any repetition gives the same builder);
  * the FIR table holds one entry per distinct SSRC, in order of first insertion, with the
    sequence number of the last insertion of that SSRC;
  * the owned variants never drop a field.

  Since size and bytes are functions of the final record, the `…_same_summary` corollaries say:
  two call sequences that configure the same thing produce the same size, the same bytes and the
  same error, no matter how they differ in order, interleaving and repetition.

  STATEMENTS ARE FIXED.  Proofs live in Rtcp/Proofs/Calls.lean and are only cited here, except the
  closed forms that are record extensionality plus one lemma of Rtcp/Proofs/FoldField.lean per field.
-/
import Rtcp.Impl.Calls
import Rtcp.Proofs.Calls

namespace Rtcp.Props
open Rtcp Rtcp.Impl Rtcp.Spec

/-! ## report block -/

theorem rb_run (b : ReportBlockBuilder) (cs : List RbCall) :
    b.run cs =
      { ssrc := b.ssrc
        fractionLost := lastSome (fun | .fl v => some v | _ => none) cs b.fractionLost
        cumulativeLost := lastSome (fun | .cl v => some v | _ => none) cs b.cumulativeLost
        extendedSequenceNumber := lastSome (fun | .esn v => some v | _ => none) cs b.extendedSequenceNumber
        interarrivalJitter := lastSome (fun | .jit v => some v | _ => none) cs b.interarrivalJitter
        lastSenderReportTimestamp := lastSome (fun | .lsr v => some v | _ => none) cs b.lastSenderReportTimestamp
        delaySinceLastSenderReportTimestamp :=
          lastSome (fun | .dlsr v => some v | _ => none) cs b.delaySinceLastSenderReportTimestamp } :=
  Proofs.rb_run b cs

/-! ## sender / receiver report -/

theorem sr_run (b : SrBuilder) (cs : List SrCall) :
    b.run cs =
      { ssrc := b.ssrc
        padding := lastSome (fun | .padding v => some v | _ => none) cs b.padding
        ntp := lastSome (fun | .ntp v => some v | _ => none) cs b.ntp
        rtp := lastSome (fun | .rtp v => some v | _ => none) cs b.rtp
        packetCount := lastSome (fun | .packetCount v => some v | _ => none) cs b.packetCount
        octetCount := lastSome (fun | .octetCount v => some v | _ => none) cs b.octetCount
        reportBlocks := b.reportBlocks ++ cs.filterMap (fun | .addReportBlock rb => some rb | _ => none) } :=
  Proofs.sr_run b cs

theorem rr_run (b : RrBuilder) (cs : List RrCall) :
    b.run cs =
      { ssrc := b.ssrc
        padding := lastSome (fun | .padding v => some v | _ => none) cs b.padding
        reportBlocks := b.reportBlocks ++ cs.filterMap (fun | .addReportBlock rb => some rb | _ => none) } :=
  RrBuilder.ext
    (Proofs.foldl_kept (by rintro _ ⟨⟩ <;> rfl) cs b)
    (Proofs.foldl_set (by rintro _ ⟨⟩ <;> rfl) cs b)
    (Proofs.foldl_added (by rintro _ ⟨⟩ <;> rfl) cs b)

/-! ## APP, BYE, unknown -/

theorem app_run (b : AppBuilder) (cs : List AppCall) :
    b.run cs =
      { ssrc := b.ssrc, name := b.name
        padding := lastSome (fun | .padding v => some v | _ => none) cs b.padding
        subtype := lastSome (fun | .subtype v => some v | _ => none) cs b.subtype
        data := lastSome (fun | .data v => some v | _ => none) cs b.data } :=
  AppBuilder.ext
    (Proofs.foldl_kept (by rintro _ ⟨⟩ <;> rfl) cs b)
    (Proofs.foldl_kept (by rintro _ ⟨⟩ <;> rfl) cs b)
    (Proofs.foldl_set (by rintro _ ⟨⟩ <;> rfl) cs b)
    (Proofs.foldl_set (by rintro _ ⟨⟩ <;> rfl) cs b)
    (Proofs.foldl_set (by rintro _ ⟨⟩ <;> rfl) cs b)

/-- `reason` and `reason_owned` both set the reason (the later of the two wins); neither touches
    padding or the sources added before or after. -/
theorem bye_run (b : ByeBuilder) (cs : List ByeCall) :
    b.run cs =
      { padding := lastSome (fun | .padding v => some v | _ => none) cs b.padding
        sources := b.sources ++ cs.filterMap (fun | .addSource s => some s | _ => none)
        reason := lastSome (fun | .reason r => some r | .reasonOwned r => some r | _ => none) cs b.reason } :=
  Proofs.bye_run b cs

theorem unknown_run (b : UnknownBuilder) (cs : List UnknownCall) :
    b.run cs =
      { type := b.type, data := b.data
        padding := lastSome (fun | .padding v => some v | _ => none) cs b.padding
        count := lastSome (fun | .count v => some v | _ => none) cs b.count } :=
  UnknownBuilder.ext
    (Proofs.foldl_kept (by rintro _ ⟨⟩ <;> rfl) cs b)
    (Proofs.foldl_kept (by rintro _ ⟨⟩ <;> rfl) cs b)
    (Proofs.foldl_set (by rintro _ ⟨⟩ <;> rfl) cs b)
    (Proofs.foldl_set (by rintro _ ⟨⟩ <;> rfl) cs b)

/-! ## SDES -/

/-- `into_owned` is the identity on the configured content, so only `prefix` calls matter. -/
theorem item_run (b : SdesItemBuilder) (cs : List ItemCall) :
    b.run cs =
      { type := b.type, value := b.value
        prefix_ := lastSome (fun | .prefix_ p => some p | _ => none) cs b.prefix_ } :=
  SdesItemBuilder.ext
    (Proofs.foldl_kept (by rintro _ ⟨⟩ <;> rfl) cs b)
    (Proofs.foldl_kept (by rintro _ ⟨⟩ <;> rfl) cs b)
    (Proofs.foldl_set (by rintro _ ⟨⟩ <;> rfl) cs b)

/-- `add_item` and `add_item_owned` append the same item. -/
theorem chunk_run (b : SdesChunkBuilder) (cs : List ChunkCall) :
    b.run cs =
      { ssrc := b.ssrc
        items := b.items ++ cs.map (fun | .addItem it => it | .addItemOwned it => it) } :=
  Proofs.chunk_run b cs

theorem sdes_run (b : SdesBuilder) (cs : List SdesCall) :
    b.run cs =
      { padding := lastSome (fun | .padding v => some v | _ => none) cs b.padding
        chunks := b.chunks ++ cs.filterMap (fun | .addChunk c => some c | _ => none) } :=
  SdesBuilder.ext
    (Proofs.foldl_set (by rintro _ ⟨⟩ <;> rfl) cs b)
    (Proofs.foldl_added (by rintro _ ⟨⟩ <;> rfl) cs b)

/-! ## feedback packets and FCI builders -/

theorem fb_run (b : FbBuilder) (cs : List FbCall) :
    b.run cs =
      { kind := b.kind, fci := b.fci
        padding := lastSome (fun | .padding v => some v | _ => none) cs b.padding
        senderSsrc := lastSome (fun | .senderSsrc v => some v | _ => none) cs b.senderSsrc
        mediaSsrc := lastSome (fun | .mediaSsrc v => some v | _ => none) cs b.mediaSsrc } :=
  FbBuilder.ext
    (Proofs.foldl_kept (by rintro _ ⟨⟩ <;> rfl) cs b)
    (Proofs.foldl_kept (by rintro _ ⟨⟩ <;> rfl) cs b)
    (Proofs.foldl_set (by rintro _ ⟨⟩ <;> rfl) cs b)
    (Proofs.foldl_set (by rintro _ ⟨⟩ <;> rfl) cs b)
    (Proofs.foldl_set (by rintro _ ⟨⟩ <;> rfl) cs b)

/-- `native_data` and `native_data_owned` both set the bit string with its overrun (later wins)
    and neither touches the payload type, set before or after. -/
theorem rpsi_run (b : RpsiBuilder) (cs : List RpsiCall) :
    b.run cs =
      { payloadType := lastSome (fun | .payloadType v => some v | _ => none) cs b.payloadType
        nativeBitString :=
          (lastSome (fun | .nativeData d k => some (d, k) | .nativeDataOwned d k => some (d, k) | _ => none) cs
            (b.nativeBitString, b.nativeBitOverrun)).1
        nativeBitOverrun :=
          (lastSome (fun | .nativeData d k => some (d, k) | .nativeDataOwned d k => some (d, k) | _ => none) cs
            (b.nativeBitString, b.nativeBitOverrun)).2 } :=
  Proofs.rpsi_run b cs

/-- NACK: after any sequence of `add_rtp_sequence` calls the set is strictly ascending and holds
    exactly the numbers that were added. -/
theorem nack_run (ss : List UInt16) :
    let b := NackBuilder.run {} ss
    b.rtpSeq.Pairwise (· < ·) ∧ ∀ x, x ∈ b.rtpSeq ↔ x ∈ ss :=
  Proofs.nack_run ss

/-- … hence the NACK builder is a function of the SET of added numbers: order and repetition of
    the calls are irrelevant. -/
theorem nack_run_same_set (ss ss' : List UInt16) (h : ∀ x, x ∈ ss ↔ x ∈ ss') :
    NackBuilder.run {} ss = NackBuilder.run {} ss' :=
  Proofs.nack_run_same_set ss ss' h

/-- FIR: one entry per distinct SSRC, carrying the sequence number of the last insertion of that
    SSRC.  (The model keeps the entries in order of first insertion; the crate keeps them in a hash
    map whose order is unspecified, C07 allows any order, and every comparison of FIR images is up to
    entry order: `fir_image_perm`.) -/
theorem fir_run (es : List (UInt32 × UInt8)) :
    (FirBuilder.run {} es).ssrcSeq =
      (es.map Prod.fst).eraseDups.map
        (fun k => (k, lastSome (fun e => if e.1 == k then some e.2 else none) es 0)) :=
  Proofs.fir_run es

theorem sli_run (b : SliBuilder) (es : List (UInt16 × UInt16 × UInt8)) :
    (b.run es).lostMbs = b.lostMbs ++ es.map (fun e => ⟨e.1, e.2.1, e.2.2⟩) :=
  Proofs.sli_run b es

/-! ## same configuration, same output

  The closed forms above mention the call sequence only through `lastSome` of each setter and the
  `filterMap` of each adder.  Two sequences that agree on those give the same builder, hence the
  same size, bytes or error from `write`.  One instance is spelled out per packet family. -/

theorem sr_same_summary (b : SrBuilder) (cs cs' : List SrCall)
    (hp : lastSome (fun | .padding v => some v | _ => none) cs b.padding
        = lastSome (fun | .padding v => some v | _ => none) cs' b.padding)
    (hn : lastSome (fun | .ntp v => some v | _ => none) cs b.ntp = lastSome (fun | .ntp v => some v | _ => none) cs' b.ntp)
    (hr : lastSome (fun | .rtp v => some v | _ => none) cs b.rtp = lastSome (fun | .rtp v => some v | _ => none) cs' b.rtp)
    (hc : lastSome (fun | .packetCount v => some v | _ => none) cs b.packetCount
        = lastSome (fun | .packetCount v => some v | _ => none) cs' b.packetCount)
    (ho : lastSome (fun | .octetCount v => some v | _ => none) cs b.octetCount
        = lastSome (fun | .octetCount v => some v | _ => none) cs' b.octetCount)
    (hb : cs.filterMap (fun | .addReportBlock rb => some rb | _ => none)
        = cs'.filterMap (fun | .addReportBlock rb => some rb | _ => none)) :
    b.run cs = b.run cs' ∧ (b.run cs).calcSize = (b.run cs').calcSize ∧
      ∀ buf, (b.run cs).toWriter.writeInto buf = (b.run cs').toWriter.writeInto buf :=
  Proofs.sr_same_summary b cs cs' hp hn hr hc ho hb

theorem bye_same_summary (b : ByeBuilder) (cs cs' : List ByeCall)
    (hp : lastSome (fun | .padding v => some v | _ => none) cs b.padding
        = lastSome (fun | .padding v => some v | _ => none) cs' b.padding)
    (hs : cs.filterMap (fun | .addSource s => some s | _ => none)
        = cs'.filterMap (fun | .addSource s => some s | _ => none))
    (hr : lastSome (fun | .reason r => some r | .reasonOwned r => some r | _ => none) cs b.reason
        = lastSome (fun | .reason r => some r | .reasonOwned r => some r | _ => none) cs' b.reason) :
    b.run cs = b.run cs' ∧ (b.run cs).calcSize = (b.run cs').calcSize ∧
      ∀ buf, (b.run cs).toWriter.writeInto buf = (b.run cs').toWriter.writeInto buf :=
  Proofs.bye_same_summary b cs cs' hp hs hr

/-- a scalar setter commutes with everything: moving a call of it to the END of the sequence
    changes nothing provided no later call of the same setter exists; stated for SR padding as the
    canonical instance of "interleaving does not matter". -/
theorem sr_padding_anywhere (b : SrBuilder) (pre post : List SrCall) (v : UInt8)
    (h : ∀ c ∈ post, ∀ w, c ≠ .padding w) :
    b.run (pre ++ .padding v :: post) = b.run (pre ++ post ++ [.padding v]) :=
  Proofs.sr_padding_anywhere b pre post v h

/-! ## non-vacuity: the closed forms on a concrete interleaved, repeated sequence -/

example :
    (SrBuilder.new 7).run [.padding 4, .rtp 1, .addReportBlock (.new 1), .padding 8, .ntp 5, .addReportBlock (.new 2), .rtp 9]
      = { ssrc := 7, padding := 8, ntp := 5, rtp := 9, reportBlocks := [.new 1, .new 2] } := by decide

example : (NackBuilder.run {} [5, 3, 5, 9, 3]).rtpSeq = [3, 5, 9] := by decide

example : (FirBuilder.run {} [(1, 10), (2, 20), (1, 11), (3, 30), (2, 21)]).ssrcSeq = [(1, 11), (2, 21), (3, 30)] := by decide

end Rtcp.Props
