/-
  SDES: the eager scanner of sdes.rs accepts exactly what the reference tokeniser of
  Spec/Decode.lean tokenises, and yields those tokens (C10); it never panics and its items can be
  read without panicking (C01); well-formed packets from the RFC encoder are accepted and yield
  what was encoded (C10 must-accept, C03 round trip).

  STATEMENTS ARE FIXED. Each is read off the lemmas of Rtcp/Proofs/*.lean in a few lines.
-/
import Rtcp.Spec.All
import Rtcp.Proofs.SdesEncode

namespace Rtcp.Props
open Rtcp Rtcp.Impl Rtcp.Spec

/-- accepted ⇒ framed, padding within the packet, and the chunks are the reference tokenisation -/
theorem sdes_parse_accepts (bs : Bytes) (v : Sdes) (h : Sdes.parse bs = .ok v) :
    v.data = bs ∧ WellFramed 4 202 bs ∧ 4 + padLen bs ≤ bs.length ∧
    refTok (sdesBody bs) = some (v.chunks.map chunkAsRef) ∧
    (∀ c ∈ v.chunks, ∀ it ∈ c.items, ItemOk bs it) := Proofs.sdes_parse_accepts bs v h

/-- rejected ⇒ not framed, or the padding overruns, or the reference tokeniser rejects too -/
theorem sdes_parse_rejects (bs : Bytes) (e : ParseError) (h : Sdes.parse bs = .err e) :
    ¬ (WellFramed 4 202 bs ∧ 4 + padLen bs ≤ bs.length ∧ (refTok (sdesBody bs)).isSome) := by
  rintro ⟨hf, hp, hs⟩
  have hn := ((Proofs.sdes_parse_agrees bs).of_err h).1
  rw [if_pos ⟨hf, hp⟩] at hn
  rw [hn] at hs
  cases hs

theorem sdes_parse_no_panic (bs : Bytes) : Sdes.parse bs ≠ .panic := (Proofs.sdes_parse_agrees bs).no_panic

/-- hence: accepted ⇔ framed ∧ padding fits ∧ the chunk region tokenises -/
theorem sdes_parse_ok_iff (bs : Bytes) :
    (∃ v, Sdes.parse bs = .ok v) ↔
      (WellFramed 4 202 bs ∧ 4 + padLen bs ≤ bs.length ∧ (refTok (sdesBody bs)).isSome) := by
  constructor
  · rintro ⟨v, h⟩
    have ⟨_, hf, hp, ht, _⟩ := sdes_parse_accepts bs v h
    exact ⟨hf, hp, by rw [ht]; rfl⟩
  · intro hr
    cases h : Sdes.parse bs with
    | ok v => exact ⟨v, rfl⟩
    | err e => exact absurd hr (sdes_parse_rejects bs e h)
    | panic => exact absurd h (sdes_parse_no_panic bs)

/-- C18: the errors of the SDES parser are truthful -/
theorem sdes_err_truthful (bs : Bytes) (e : ParseError) (h : Sdes.parse bs = .err e) :
    ErrorTruthful bs 202 e := ((Proofs.sdes_parse_agrees bs).of_err h).2

/-- every accessor of a parsed item returns normally, with exactly the bytes on the wire; PRIV
    items split into prefix and value as the reference says -/
theorem item_accessors {ε : Type} (bs : Bytes) (it : SdesItem) (h : ItemOk bs it) :
    (it.type : R ε UInt8) = .ok (u8At it.data 0).toUInt8 ∧
    (it.length : R ε Nat) = .ok (it.data.length - 2) ∧
    (u8At it.data 0 ≠ 8 →
      (it.value : R ε Slice) = .ok ⟨it.off + 2, it.data.drop 2⟩) ∧
    (u8At it.data 0 = 8 →
      (it.privPrefixLen : R ε UInt8) = .ok (u8At it.data 2).toUInt8 ∧
      (it.privPrefix : R ε Slice) = .ok ⟨it.off + 3, (it.data.drop 3).take (u8At it.data 2)⟩ ∧
      (it.value : R ε Slice) = .ok ⟨it.off + 3 + u8At it.data 2, it.data.drop (3 + u8At it.data 2)⟩ ∧
      (itemAsRef it).privSplit = some ((it.data.drop 3).take (u8At it.data 2), it.data.drop (3 + u8At it.data 2))) :=
  Proofs.item_accessors it h.2.2.2.1 h.2.2.2.2

/-- each chunk reports its own encoded length: SSRC, items with their two header octets, the
    terminator, rounded up to 32 bits -/
theorem chunk_length {ε : Type} (bs : Bytes) (c : SdesChunk) (h : ∀ it ∈ c.items, ItemOk bs it) :
    (c.length : R ε Nat) = .ok (pad4 (4 + (c.items.map (·.data.length)).sum + 1)) := Proofs.chunk_length bs c h

/-- the reference tokeniser accepts exactly the reference encoder's images: must-accept (C10) -/
theorem refTok_encode (cs : List SdesChunkBuilder)
    (h : ∀ c ∈ cs, ∀ it ∈ c.items, itemRules it = [] ∧ it.type ≠ 0) :
    refTok ((cs.map chunkImage).flatten) = some (cs.map chunkCfgAsRef) := Proofs.refTok_encode cs h

/-- the encoded length of a well-formed chunk is what `length()` reports for it -/
theorem chunkImage_length (c : SdesChunkBuilder) :
    (chunkImage c).length = pad4 (4 + (c.items.map (fun it => (itemImage it).length)).sum + 1) := by
  rw [Proofs.chunkImage_length, List.length_flatten, List.map_map]; rfl

/-- C03: every SDES packet the builder accepts (item types ≠ 0) is accepted by the parser and
    yields exactly the configured chunks, items (type, value, PRIV prefix) and padding -/
theorem sdes_roundtrip {ε : Type} (b : SdesBuilder) (h : sdesRules b = [])
    (hz : ∀ c ∈ b.chunks, ∀ it ∈ c.items, it.type ≠ 0) :
    ∃ v, Sdes.parse (sdesImage b) = .ok v ∧
      v.chunks.map chunkAsRef = b.chunks.map chunkCfgAsRef ∧
      (Sdes.padding v : R ε (Option UInt8)) = .ok (getPaddingOf b.padding) := Proofs.sdes_roundtrip b h hz

/-! the three must-reject classes, as the reference tokeniser sees them (by definition) -/

/-- an item that overruns the packet is rejected -/
theorem ref_rejects_item_overrun (fuel pos : Nat) (t l : UInt8) (rest : Bytes) (ht : t ≠ 0)
    (h : rest.length < l.toNat) : refItems (fuel + 1) pos (t :: l :: rest) = none := by
  rw [Proofs.SdesAux.refItems_item fuel pos rfl ht, Proofs.SdesAux.refItem, if_pos h]
  rfl

/-- a PRIV prefix that overruns its item is rejected -/
theorem ref_rejects_priv_overrun (fuel pos : Nat) (l pl : UInt8) (rest : Bytes)
    (hl : l.toNat ≤ rest.length + 1) (h1 : 1 ≤ l.toNat) (h : l.toNat - 1 < pl.toNat) :
    refItems (fuel + 1) pos (8 :: l :: pl :: rest) = none := by
  obtain ⟨k, hk⟩ := Nat.exists_eq_add_of_le' h1
  have hsplit : RefItem.privSplit ⟨8, (pl :: rest).take l.toNat⟩ = none := by
    rw [hk, List.take_succ_cons]
    exact if_neg (by rw [List.length_take]; omega)
  rw [Proofs.SdesAux.refItems_item fuel pos rfl (by decide), Proofs.SdesAux.refItem,
    if_neg (Nat.not_lt.mpr hl : ¬ (pl :: rest).length < l.toNat), if_pos ⟨rfl, hsplit⟩]
  rfl

/-- non-zero bytes in a chunk's fill are rejected -/
theorem ref_rejects_nonzero_fill (fuel pos : Nat) (rest : Bytes)
    (h : ∃ i, i < (4 - (pos + 1) % 4) % 4 ∧ i < rest.length ∧ rest.getD i 0 ≠ 0) :
    refItems (fuel + 1) pos (0 :: rest) = none := by
  obtain ⟨i, hi, hir, hne⟩ := h
  rw [Proofs.SdesAux.refItems_zero, Proofs.SdesAux.refFill]
  split
  · rfl
  · refine if_neg fun hall => hne ?_
    rw [List.getD_eq_getElem?_getD, List.getElem?_eq_getElem hir]
    exact beq_iff_eq.mp
      (List.all_eq_true.mp hall rest[i] (List.mem_take_iff_getElem.mpr ⟨i, Nat.lt_min.mpr ⟨hi, hir⟩, rfl⟩))

end Rtcp.Props
