/-
  C14 for NESTED compounds: a member of a compound may itself be a compound, to any depth, empty
  nested compounds included.  For every tree of built-in packet builders whose root writer is accepted
  with `n`:
    * `write_into` writes exactly the RFC images of the LEAVES, in order, `n` bytes, rest untouched
      (a nested compound contributes its own members, an empty one contributes nothing);
    * when there is at least one leaf those bytes are accepted by `Compound::parse`, every leaf image is
      read by the generic parser as the leaf's variant, and iteration yields one item per leaf, in
      order, each equal to `Packet::parse` of the leaf image alone.
  The only premises are acceptance by `calculate_size` and what holds of every builder made through
  the public API (NACK sets sorted; C03's exclusion of SDES items of type 0).  `tree_refines` is the
  writer contract for every tree, by structural recursion through the nesting.

  STATEMENTS ARE FIXED. Each is read off the lemmas of Rtcp/Proofs/NestedE2E.lean in a few lines.
-/
import Rtcp.Props.Trees
import Rtcp.Proofs.NestedE2E

namespace Rtcp.Props
open Rtcp Rtcp.Impl Rtcp.Spec

/-- the image of a nested compound is the concatenation of its members' images -/
theorem node_image (ts : List Tree) : (Tree.node ts).image = (ts.map Tree.image).flatten := Proofs.node_image ts

/-- the writer contract, for every tree -/
theorem tree_refines (t : Tree) (h : ∀ m ∈ t.leaves, m.Inv) : Refines t.toWriter t.image := Proofs.tree_refines t h

/-- acceptance of a tree implies acceptance of every leaf on its own -/
theorem tree_leaves_accepted (t : Tree) (h : ∀ m ∈ t.leaves, m.Inv) (k : Nat) (hk : t.toWriter.calcSize = .ok k) :
    ∀ m ∈ t.leaves, ∃ k', m.toWriter.calcSize = .ok k' := Proofs.tree_leaves_accepted t h k hk

theorem nested_end_to_end {ε : Type} (t : Tree) (hinv : ∀ m ∈ t.leaves, m.Inv) (hne : t.leaves ≠ []) (n : Nat)
    (hs : t.toWriter.calcSize = .ok n) (buf : Bytes) (hb : n ≤ buf.length)
    (fuel : Nat) (hf : t.leaves.length < fuel) :
    t.toWriter.writeInto buf = (t.image ++ buf.drop n, .ok n) ∧
    t.image.length = n ∧
    Compound.parse t.image = .ok ⟨t.image, 0, false⟩ ∧
    (∀ m ∈ t.leaves, ∃ p, Packet.parse m.image = .ok p ∧ p.kind? = some m.kind) ∧
    ∃ items c', (Compound.collect fuel ⟨t.image, 0, false⟩ [] : R ε _) = .ok (items, true, c') ∧
      items.map (·.1) = t.leaves.map (fun m => Packet.parse m.image) ∧ items.length = t.leaves.length :=
  Proofs.nested_end_to_end t hinv hne n hs buf hb fuel hf

/-- non-vacuity: `[rr [bye []] [rr bye(padded)]]` — two levels, an empty nested compound, padding on the
    very last packet only — is accepted with 8 + 8 + 8 + 12 = 36 bytes and has four leaves -/
example :
    let rr : Tree := .leaf (.rr { ssrc := 1 })
    let bye : Tree := .leaf (.bye { sources := [9] })
    let byeP : Tree := .leaf (.bye { padding := 4, sources := [9] })
    let t : Tree := .node [rr, .node [bye, .node []], .node [rr, byeP]]
    t.toWriter.calcSize = .ok 36 ∧ t.leaves.length = 4 := by decide

/-- and padding on a packet that is not the last leaf is refused through the nesting -/
example :
    let rr : Tree := .leaf (.rr { ssrc := 1 })
    let byeP : Tree := .leaf (.bye { padding := 4, sources := [9] })
    (Tree.node [.node [rr, byeP], rr]).toWriter.calcSize = .err .nonLastCompoundPacketPadding := by decide

end Rtcp.Props
