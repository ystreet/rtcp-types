/-
  C13: trailing padding is transparent to packet contents.  For every packet a typed parser
  accepts without padding and every legal padding amount n ∈ {4, 8, …, 252} that still fits the
  16-bit length field, the packet with RFC 3550 padding added (`Spec.addPadding`) is accepted by
  the same parser, its padding accessor reports n, and every content accessor returns exactly
  what it returns for the unpadded packet (slices: same offset, same bytes).

  STATEMENTS ARE FIXED. Each is read off the lemmas of Rtcp/Proofs/*.lean in a few lines.
-/
import Rtcp.Spec.All
import Rtcp.Proofs.Padding

namespace Rtcp.Props
open Rtcp Rtcp.Impl Rtcp.Spec


/-- what `addPadding` does to the bytes: the first four octets change (P bit, length field), the
    body is kept, n-1 zero octets and the count are appended -/
theorem addPadding_shape (p : Bytes) (n : Nat) (h4 : 4 ≤ p.length) (hn : PadOk p n) :
    (addPadding p n).length = p.length + n ∧
    (addPadding p n).drop 4 = p.drop 4 ++ List.replicate (n - 1) 0 ++ [n.toUInt8] ∧
    pbit (addPadding p n) = true ∧ lastByte (addPadding p n) = n.toUInt8 ∧
    count (addPadding p n) = count p ∧ version (addPadding p n) = version p ∧
    ptype (addPadding p n) = ptype p ∧
    (lengthField p = p.length → lengthField (addPadding p n) = p.length + n) :=
  Proofs.addPadding_shape p n h4 hn

theorem sr_pad_transparent {ε : Type} (p : Bytes) (n : Nat) (h : Sr.parse p = .ok p) (hn : PadOk p n) :
    let q := addPadding p n
    Sr.parse q = .ok q ∧ (Sr.padding q : R ε (Option UInt8)) = .ok (some n.toUInt8) ∧
    (Sr.ssrc q : R ε UInt32) = Sr.ssrc p ∧ (Sr.ntp q : R ε UInt64) = Sr.ntp p ∧
    (Sr.rtp q : R ε UInt32) = Sr.rtp p ∧ (Sr.packetCount q : R ε UInt32) = Sr.packetCount p ∧
    (Sr.octetCount q : R ε UInt32) = Sr.octetCount p ∧ (Sr.nReports q : R ε UInt8) = Sr.nReports p ∧
    (Sr.reportBlocks q : R ε (List Bytes)) = Sr.reportBlocks p :=
  Proofs.Pad.sr_pad (Proofs.Pad.facts p n ((Proofs.sr_outcome p).framed h).2.1 hn) h

theorem rr_pad_transparent {ε : Type} (p : Bytes) (n : Nat) (h : Rr.parse p = .ok p) (hn : PadOk p n) :
    let q := addPadding p n
    Rr.parse q = .ok q ∧ (Rr.padding q : R ε (Option UInt8)) = .ok (some n.toUInt8) ∧
    (Rr.ssrc q : R ε UInt32) = Rr.ssrc p ∧ (Rr.nReports q : R ε UInt8) = Rr.nReports p ∧
    (Rr.reportBlocks q : R ε (List Bytes)) = Rr.reportBlocks p :=
  Proofs.Pad.rr_pad (Proofs.Pad.facts p n ((Proofs.rr_outcome p).framed h).2.1 hn) h

theorem bye_pad_transparent {ε : Type} (p : Bytes) (n : Nat) (h : Bye.parse p = .ok p) (hn : PadOk p n) :
    let q := addPadding p n
    Bye.parse q = .ok q ∧ (Bye.padding q : R ε (Option UInt8)) = .ok (some n.toUInt8) ∧
    (Bye.ssrcs q : R ε (List UInt32)) = Bye.ssrcs p ∧
    (Bye.reason q : R ε (Option Slice)) = Bye.reason p :=
  Proofs.Pad.bye_pad (Proofs.Pad.facts p n ((Proofs.bye_outcome p).framed h).2.1 hn) h

theorem app_pad_transparent {ε : Type} (p : Bytes) (n : Nat) (h : App.parse p = .ok p) (hn : PadOk p n) :
    let q := addPadding p n
    App.parse q = .ok q ∧ (App.padding q : R ε (Option UInt8)) = .ok (some n.toUInt8) ∧
    (App.ssrc q : R ε UInt32) = App.ssrc p ∧ (hCount q : R ε UInt8) = hCount p ∧
    (App.name q : R ε Bytes) = App.name p ∧ (App.data q : R ε Slice) = App.data p :=
  Proofs.Pad.app_pad (Proofs.Pad.facts p n ((Proofs.app_outcome p).framed h).2.1 hn) h

/-- feedback packets: both SSRCs, the format, and for every FCI type the very same FCI bytes are
    handed to the FCI parser (so every decoded entry list is the same) -/
theorem fb_pad_transparent {ε : Type} (k : FbKind) (p : Bytes) (n : Nat) (h : Fb.parse k p = .ok p)
    (hn : PadOk p n) :
    let q := addPadding p n
    Fb.parse k q = .ok q ∧ (Fb.padding q : R ε (Option UInt8)) = .ok (some n.toUInt8) ∧
    (Fb.senderSsrc q : R ε UInt32) = Fb.senderSsrc p ∧ (Fb.mediaSsrc q : R ε UInt32) = Fb.mediaSsrc p ∧
    (hCount q : R ε UInt8) = hCount p ∧
    (∀ f : Fb.FciType, Fb.parseFci k f q = Fb.parseFci k f p) :=
  Proofs.Pad.fb_pad (Proofs.Pad.facts p n ((Proofs.fb_outcome k p).framed h).2.1 hn) k h

/-- SDES: the same chunks and items (same offsets, same bytes) -/
theorem sdes_pad_transparent {ε : Type} (p : Bytes) (n : Nat) (v : Sdes) (h : Sdes.parse p = .ok v)
    (hn : PadOk p n) :
    let q := addPadding p n
    ∃ v', Sdes.parse q = .ok v' ∧ v'.data = q ∧ v'.chunks = v.chunks ∧
      (Sdes.padding v' : R ε (Option UInt8)) = .ok (some n.toUInt8) :=
  Proofs.Pad.sdes_pad (Proofs.Pad.facts p n (Proofs.wf_len (Proofs.sdes_parse_accepts p v h).2.1).2.1 hn) v h

/-- the third-party family -/
theorem custom_pad_transparent {ε : Type} (pt : UInt8) (min : Nat) (h4 : 4 ≤ min) (p : Bytes) (n : Nat)
    (h : Custom.parse pt min p = .ok p) (hn : PadOk p n) :
    let q := addPadding p n
    Custom.parse pt min q = .ok q ∧ (Custom.padding q : R ε (Option UInt8)) = .ok (some n.toUInt8) ∧
    (Custom.body q : R ε Slice) = Custom.body p :=
  Proofs.Pad.custom_pad (Proofs.Pad.facts p n ((Proofs.custom_outcome pt min h4 p).framed h).2.1 hn) pt min h4 h

/-- the hypotheses are satisfiable: a BYE with one source and a reason, padded by 8 -/
example : Bye.parse [0x81, 203, 0, 3, 0, 0, 0, 7, 2, 0x61, 0x62, 0, 0, 0, 0, 0] =
      .ok [0x81, 203, 0, 3, 0, 0, 0, 7, 2, 0x61, 0x62, 0, 0, 0, 0, 0] ∧
    PadOk [0x81, 203, 0, 3, 0, 0, 0, 7, 2, 0x61, 0x62, 0, 0, 0, 0, 0] 8 := by decide

end Rtcp.Props
