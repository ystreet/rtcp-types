/-
  The request driver runs linear-time versions of the model's iterator drivers (Rtcp/Impl/Fast.lean):
  the model's own `collect` functions append with `acc ++ [v]` and re-slice the input at every step,
  which is convenient to reason about and quadratic to run.  These theorems are what makes that
  substitution sound: for every input the fast functions return exactly what the model returns, so
  every theorem about `Nack.entries`, `Fir.entries`, `Sli.lostMacroblocks` and `Compound.collect`
  is a theorem about what the driver executes.

  STATEMENTS ARE FIXED. Each is read off the lemmas of Rtcp/Proofs/Fast.lean in a few lines.
-/
import Rtcp.Impl.Fast
import Rtcp.Proofs.Fast
import Rtcp.Proofs.ParsersDispatch

namespace Rtcp.Props
open Rtcp Rtcp.Impl

theorem fast_nack_eq {ε : Type} (d : Bytes) :
    (Fast.nackEntries d : R ε (List UInt16 × Bool)) = Nack.entries d := Proofs.fast_nack_eq d

theorem fast_fir_eq {ε : Type} (d : Bytes) :
    (Fast.firEntries d : R ε (List (UInt32 × UInt8) × Bool)) = Fir.entries d := by
  rw [Proofs.fir_entries_ok, Fast.firEntries, Proofs.fast_firGo_eq]; rfl

theorem fast_sli_eq {ε : Type} (d : Bytes) :
    (Fast.sliEntries d : R ε (List MacroBlockEntry × Bool)) = Sli.lostMacroblocks d := by
  rw [Proofs.sli_entries_ok, Fast.sliEntries, Proofs.fast_sliGo_eq]; rfl

/-- any iterator state, any fuel -/
theorem fast_compound_eq {ε : Type} (fuel : Nat) (c : Compound) :
    (Fast.compoundCollect fuel c : R ε (List (R ParseError Packet × Nat) × Bool × Compound))
      = Compound.collect fuel c [] := Proofs.fast_compoundGo_eq c.data fuel c.offset c.isOver []

theorem fast_compoundParse_eq (d : Bytes) : Fast.compoundParse d = Compound.parse d := by
  unfold Fast.compoundParse Compound.parse
  rw [← Proofs.fast_parseGo_eq d 0, List.drop_zero]
  rfl

/-- the SDES scanner, chunk loop and item loop both linear -/
theorem fast_sdesParse_eq (d : Bytes) : Fast.sdesParse d = Sdes.parse d := Proofs.fast_sdesParse_eq d

/-- the generic parser with the linear SDES scanner behind its SDES arm -/
theorem fast_packetParse_eq (d : Bytes) : Fast.packetParse d = Packet.parse d := by
  unfold Fast.packetParse
  by_cases h : d.length < 4
  · rw [if_pos h, Proofs.packet_parse_short d h]
  · have h4 := Nat.not_lt.mp h
    rw [if_neg h, Proofs.Read.parsePacketType_ok d (Nat.le_trans (by decide) h4), R.ok_bind]
    split
    · next h2 =>
      rw [Proofs.packet_parse_eq d h4, eq_of_beq h2]
      exact congrArg (Packet.sdes <$> ·) (fast_sdesParse_eq d)
    · rfl

theorem fast_kindParse_eq (k : Kind) (d : Bytes) : Fast.kindParse k d = k.parse d := by
  cases k
  case sdes => exact congrArg (Packet.sdes <$> ·) (fast_sdesParse_eq d)
  all_goals rfl

end Rtcp.Props
