/-
  C20: builder output depends on what was configured, not on how.

  In the model a builder is a record and every API method is a function on it
  (Rtcp/Impl/Setters.lean; the request driver folds exactly these functions over the call
  sequence).  Size and bytes are functions of the final record (`toWriter`), so it suffices that
  call sequences that should be equivalent produce the same record:
  independent setters commute, a repeated setter keeps the last value, list-adding calls append
  (insertion order), re-adding a NACK sequence number is idempotent and NACK insertion order is
  irrelevant, re-adding a FIR SSRC keeps the last sequence number without duplicating the entry,
  and the owned variants build the same record as their borrowed counterparts without losing a
  previously set field.  The enum wrapper and the one-member compound write what the member writes.

  STATEMENTS ARE FIXED. Longer proofs live in Rtcp/Proofs/Setters.lean and Rtcp/Proofs/SortedSet.lean and
  are only cited here.
-/
import Rtcp.Impl.Setters
import Rtcp.Props.Writers
import Rtcp.Proofs.Setters

namespace Rtcp.Props
open Rtcp Rtcp.Impl Rtcp.Spec

/-! ## report block: six independent setters -/

theorem rb_setters_commute (b : ReportBlockBuilder) (f : UInt8) (c e j l d : UInt32) :
    (b.setFractionLost f).setCumulativeLost c = (b.setCumulativeLost c).setFractionLost f ∧
    (b.setFractionLost f).setExtendedSequenceNumber e = (b.setExtendedSequenceNumber e).setFractionLost f ∧
    (b.setFractionLost f).setInterarrivalJitter j = (b.setInterarrivalJitter j).setFractionLost f ∧
    (b.setFractionLost f).setLastSenderReportTimestamp l = (b.setLastSenderReportTimestamp l).setFractionLost f ∧
    (b.setFractionLost f).setDelaySinceLastSenderReportTimestamp d
      = (b.setDelaySinceLastSenderReportTimestamp d).setFractionLost f ∧
    (b.setCumulativeLost c).setExtendedSequenceNumber e = (b.setExtendedSequenceNumber e).setCumulativeLost c ∧
    (b.setCumulativeLost c).setInterarrivalJitter j = (b.setInterarrivalJitter j).setCumulativeLost c ∧
    (b.setCumulativeLost c).setLastSenderReportTimestamp l = (b.setLastSenderReportTimestamp l).setCumulativeLost c ∧
    (b.setCumulativeLost c).setDelaySinceLastSenderReportTimestamp d
      = (b.setDelaySinceLastSenderReportTimestamp d).setCumulativeLost c ∧
    (b.setExtendedSequenceNumber e).setInterarrivalJitter j = (b.setInterarrivalJitter j).setExtendedSequenceNumber e ∧
    (b.setExtendedSequenceNumber e).setLastSenderReportTimestamp l
      = (b.setLastSenderReportTimestamp l).setExtendedSequenceNumber e ∧
    (b.setExtendedSequenceNumber e).setDelaySinceLastSenderReportTimestamp d
      = (b.setDelaySinceLastSenderReportTimestamp d).setExtendedSequenceNumber e ∧
    (b.setInterarrivalJitter j).setLastSenderReportTimestamp l = (b.setLastSenderReportTimestamp l).setInterarrivalJitter j ∧
    (b.setInterarrivalJitter j).setDelaySinceLastSenderReportTimestamp d
      = (b.setDelaySinceLastSenderReportTimestamp d).setInterarrivalJitter j ∧
    (b.setLastSenderReportTimestamp l).setDelaySinceLastSenderReportTimestamp d
      = (b.setDelaySinceLastSenderReportTimestamp d).setLastSenderReportTimestamp l :=
  ⟨rfl, rfl, rfl, rfl, rfl, rfl, rfl, rfl, rfl, rfl, rfl, rfl, rfl, rfl, rfl⟩

theorem rb_setter_last_wins (b : ReportBlockBuilder) (f f' : UInt8) (x x' : UInt32) :
    (b.setFractionLost f).setFractionLost f' = b.setFractionLost f' ∧
    (b.setCumulativeLost x).setCumulativeLost x' = b.setCumulativeLost x' ∧
    (b.setExtendedSequenceNumber x).setExtendedSequenceNumber x' = b.setExtendedSequenceNumber x' ∧
    (b.setInterarrivalJitter x).setInterarrivalJitter x' = b.setInterarrivalJitter x' ∧
    (b.setLastSenderReportTimestamp x).setLastSenderReportTimestamp x' = b.setLastSenderReportTimestamp x' ∧
    (b.setDelaySinceLastSenderReportTimestamp x).setDelaySinceLastSenderReportTimestamp x'
      = b.setDelaySinceLastSenderReportTimestamp x' :=
  ⟨rfl, rfl, rfl, rfl, rfl, rfl⟩

/-! ## sender / receiver report -/

theorem sr_setters_commute (b : SrBuilder) (p : UInt8) (n : UInt64) (r pc oc : UInt32) (rb : ReportBlockBuilder) :
    (b.setPadding p).setNtp n = (b.setNtp n).setPadding p ∧
    (b.setPadding p).setRtp r = (b.setRtp r).setPadding p ∧
    (b.setPadding p).setPacketCount pc = (b.setPacketCount pc).setPadding p ∧
    (b.setPadding p).setOctetCount oc = (b.setOctetCount oc).setPadding p ∧
    (b.setNtp n).setRtp r = (b.setRtp r).setNtp n ∧
    (b.setNtp n).setPacketCount pc = (b.setPacketCount pc).setNtp n ∧
    (b.setNtp n).setOctetCount oc = (b.setOctetCount oc).setNtp n ∧
    (b.setRtp r).setPacketCount pc = (b.setPacketCount pc).setRtp r ∧
    (b.setRtp r).setOctetCount oc = (b.setOctetCount oc).setRtp r ∧
    (b.setPacketCount pc).setOctetCount oc = (b.setOctetCount oc).setPacketCount pc ∧
    (b.setPadding p).addReportBlock rb = (b.addReportBlock rb).setPadding p ∧
    (b.setNtp n).addReportBlock rb = (b.addReportBlock rb).setNtp n ∧
    (b.setRtp r).addReportBlock rb = (b.addReportBlock rb).setRtp r ∧
    (b.setPacketCount pc).addReportBlock rb = (b.addReportBlock rb).setPacketCount pc ∧
    (b.setOctetCount oc).addReportBlock rb = (b.addReportBlock rb).setOctetCount oc :=
  ⟨rfl, rfl, rfl, rfl, rfl, rfl, rfl, rfl, rfl, rfl, rfl, rfl, rfl, rfl, rfl⟩

theorem sr_setter_last_wins (b : SrBuilder) (p p' : UInt8) (n n' : UInt64) (x x' : UInt32) :
    (b.setPadding p).setPadding p' = b.setPadding p' ∧ (b.setNtp n).setNtp n' = b.setNtp n' ∧
    (b.setRtp x).setRtp x' = b.setRtp x' ∧ (b.setPacketCount x).setPacketCount x' = b.setPacketCount x' ∧
    (b.setOctetCount x).setOctetCount x' = b.setOctetCount x' :=
  ⟨rfl, rfl, rfl, rfl, rfl⟩

theorem rr_setters (b : RrBuilder) (p p' : UInt8) (rb : ReportBlockBuilder) :
    (b.setPadding p).addReportBlock rb = (b.addReportBlock rb).setPadding p ∧
    (b.setPadding p).setPadding p' = b.setPadding p' := ⟨rfl, rfl⟩

/-- list-adding calls preserve insertion order (SR, RR, BYE, SDES, SDES chunk, SLI, compound) -/
theorem adders_preserve_order (sr : SrBuilder) (rr : RrBuilder) (bye : ByeBuilder) (sd : SdesBuilder)
    (ch : SdesChunkBuilder) (sli : SliBuilder) (ms : List Writer)
    (rbs : List ReportBlockBuilder) (ss : List UInt32) (cs : List SdesChunkBuilder) (its : List SdesItemBuilder)
    (es : List (UInt16 × UInt16 × UInt8)) (ws : List Writer) :
    (rbs.foldl SrBuilder.addReportBlock sr).reportBlocks = sr.reportBlocks ++ rbs ∧
    (rbs.foldl RrBuilder.addReportBlock rr).reportBlocks = rr.reportBlocks ++ rbs ∧
    (ss.foldl ByeBuilder.addSource bye).sources = bye.sources ++ ss ∧
    (cs.foldl SdesBuilder.addChunk sd).chunks = sd.chunks ++ cs ∧
    (its.foldl SdesChunkBuilder.addItem ch).items = ch.items ++ its ∧
    (es.foldl (fun b e => b.addLostMacroblock e.1 e.2.1 e.2.2) sli).lostMbs
      = sli.lostMbs ++ es.map (fun e => ⟨e.1, e.2.1, e.2.2⟩) ∧
    ws.foldl CompoundBuilder.addPacket ms = ms ++ ws :=
  Proofs.adders_preserve_order sr rr bye sd ch sli ms rbs ss cs its es ws

/-! ## APP, BYE, SDES, unknown, feedback, RPSI -/

theorem app_setters (b : AppBuilder) (p p' s s' : UInt8) (d d' : Bytes) :
    (b.setPadding p).setSubtype s = (b.setSubtype s).setPadding p ∧
    (b.setPadding p).setData d = (b.setData d).setPadding p ∧
    (b.setSubtype s).setData d = (b.setData d).setSubtype s ∧
    (b.setPadding p).setPadding p' = b.setPadding p' ∧ (b.setSubtype s).setSubtype s' = b.setSubtype s' ∧
    (b.setData d).setData d' = b.setData d' := ⟨rfl, rfl, rfl, rfl, rfl, rfl⟩

theorem bye_setters (b : ByeBuilder) (p p' : UInt8) (s : UInt32) (r r' : Bytes) :
    (b.setPadding p).addSource s = (b.addSource s).setPadding p ∧
    (b.setPadding p).setReason r = (b.setReason r).setPadding p ∧
    (b.addSource s).setReason r = (b.setReason r).addSource s ∧
    (b.setPadding p).setPadding p' = b.setPadding p' ∧ (b.setReason r).setReason r' = b.setReason r' :=
  ⟨rfl, rfl, rfl, rfl, rfl⟩

/-- the owned reason keeps padding and sources: it builds the very same builder -/
theorem bye_reason_owned_eq (b : ByeBuilder) (r : Bytes) : b.reasonOwned r = b.setReason r := rfl

theorem sdes_setters (b : SdesBuilder) (p p' : UInt8) (c : SdesChunkBuilder) :
    (b.setPadding p).addChunk c = (b.addChunk c).setPadding p ∧
    (b.setPadding p).setPadding p' = b.setPadding p' := ⟨rfl, rfl⟩

/-- owned SDES items keep type, prefix and value -/
theorem sdes_item_owned_eq (it : SdesItemBuilder) (c : SdesChunkBuilder) (p p' : Bytes) :
    it.intoOwned = it ∧ c.addItemOwned it = c.addItem it ∧
    (it.setPrefix p).intoOwned = it.intoOwned.setPrefix p ∧ (it.setPrefix p).setPrefix p' = it.setPrefix p' :=
  ⟨rfl, rfl, rfl, rfl⟩

theorem unknown_setters (b : UnknownBuilder) (p p' c c' : UInt8) :
    (b.setPadding p).setCount c = (b.setCount c).setPadding p ∧
    (b.setPadding p).setPadding p' = b.setPadding p' ∧ (b.setCount c).setCount c' = b.setCount c' :=
  ⟨rfl, rfl, rfl⟩

theorem fb_setters (b : FbBuilder) (p p' : UInt8) (s s' m m' : UInt32) :
    (b.setPadding p).setSenderSsrc s = (b.setSenderSsrc s).setPadding p ∧
    (b.setPadding p).setMediaSsrc m = (b.setMediaSsrc m).setPadding p ∧
    (b.setSenderSsrc s).setMediaSsrc m = (b.setMediaSsrc m).setSenderSsrc s ∧
    (b.setPadding p).setPadding p' = b.setPadding p' ∧
    (b.setSenderSsrc s).setSenderSsrc s' = b.setSenderSsrc s' ∧
    (b.setMediaSsrc m).setMediaSsrc m' = b.setMediaSsrc m' := ⟨rfl, rfl, rfl, rfl, rfl, rfl⟩

theorem rpsi_setters (b : RpsiBuilder) (t t' k k' : UInt8) (d d' : Bytes) :
    (b.setPayloadType t).nativeData d k = (b.nativeData d k).setPayloadType t ∧
    (b.setPayloadType t).setPayloadType t' = b.setPayloadType t' ∧
    (b.nativeData d k).nativeData d' k' = b.nativeData d' k' ∧
    b.nativeDataOwned d k = b.nativeData d k := ⟨rfl, rfl, rfl, rfl⟩

/-! ## NACK set and FIR map -/

/-- re-adding a sequence number changes nothing -/
theorem nack_add_idempotent (b : NackBuilder) (s : UInt16) (h : NackSorted b) :
    (b.addRtpSequence s).addRtpSequence s = b.addRtpSequence s := Proofs.nack_add_idempotent b s h

/-- the order in which sequence numbers are added is irrelevant -/
theorem nack_add_comm (b : NackBuilder) (s t : UInt16) (h : NackSorted b) :
    (b.addRtpSequence s).addRtpSequence t = (b.addRtpSequence t).addRtpSequence s :=
  Proofs.nack_ext (Proofs.sortedInsert_pairwise t (Proofs.sortedInsert_pairwise s h))
    (Proofs.sortedInsert_pairwise s (Proofs.sortedInsert_pairwise t h)) fun x => by
    simp only [NackBuilder.addRtpSequence, Proofs.mem_sortedInsert, or_left_comm]

/-- the builder holds exactly the set of added numbers -/
theorem nack_add_mem (b : NackBuilder) (s x : UInt16) :
    x ∈ (b.addRtpSequence s).rtpSeq ↔ x = s ∨ x ∈ b.rtpSeq := Proofs.mem_sortedInsert

/-- re-adding an SSRC keeps the last sequence number and does not duplicate the entry -/
theorem fir_add_last_wins (b : FirBuilder) (k : UInt32) (v v' : UInt8) :
    (b.addSsrc k v).addSsrc k v' = b.addSsrc k v' := Proofs.fir_add_last_wins b k v v'

/-- adding two different SSRCs in either order gives the same map: the same entries up to order,
    which is all a FIR image is defined up to -/
theorem fir_add_comm (b : FirBuilder) (k k' : UInt32) (v v' : UInt8) (hne : k ≠ k')
    (hu : (b.ssrcSeq.map (·.1)).Nodup) :
    ((b.addSsrc k v).addSsrc k' v').ssrcSeq.Perm ((b.addSsrc k' v').addSsrc k v).ssrcSeq :=
  have _ := hu  -- not needed: `upsert` commutes up to order on any table
  Proofs.upsert_upsert_perm k k' v v' hne b.ssrcSeq

/-- a permutation of the map entries permutes the 8-byte entries of the image and keeps the size -/
theorem fir_image_perm (a b : FirBuilder) (h : a.ssrcSeq.Perm b.ssrcSeq) :
    (a.ssrcSeq.map firEntryImage).Perm (b.ssrcSeq.map firEntryImage) ∧ a.calcSize = b.calcSize :=
  ⟨h.map _, by simp only [FirBuilder.calcSize, h.length_eq]⟩

/-! ## wrappers -/

/-- `PacketBuilder::from(b)` forwards size, bytes and padding to the wrapped builder -/
theorem packet_builder_forwards (a : AppBuilder) (y : ByeBuilder) (r : RrBuilder) (s : SrBuilder)
    (d : SdesBuilder) (u : UnknownBuilder) (f : FbBuilder) :
    (PacketBuilder.app a).toWriter = a.toWriter ∧ (PacketBuilder.bye y).toWriter = y.toWriter ∧
    (PacketBuilder.rr r).toWriter = r.toWriter ∧ (PacketBuilder.sr s).toWriter = s.toWriter ∧
    (PacketBuilder.sdes d).toWriter = d.toWriter ∧ (PacketBuilder.unknown u).toWriter = u.toWriter ∧
    (PacketBuilder.tfb f).toWriter = f.toWriter ∧ (PacketBuilder.pfb f).toWriter = f.toWriter :=
  ⟨rfl, rfl, rfl, rfl, rfl, rfl, rfl, rfl⟩

/-- a one-member compound announces the member's size and padding and writes the member's bytes -/
theorem compound_singleton (m : Writer) (img : Bytes) (h : Refines m img) :
    Refines (CompoundBuilder.toWriter [m]) img ∧
    (CompoundBuilder.toWriter [m]).calcSize = m.calcSize ∧
    (CompoundBuilder.toWriter [m]).getPadding = m.getPadding := by
  refine ⟨?_, ?_, rfl⟩
  · simpa using Proofs.compound_refines [m] [img] (Proofs.Pointwise.cons_iff.mpr ⟨h, Proofs.Pointwise.nil⟩)
  · show CompoundBuilder.sizeLoop 0 [m] 0 0 = m.calcSize
    simp only [CompoundBuilder.sizeLoop]
    cases m.calcSize <;> simp

/-- non-vacuity: a padded BYE configured in two different orders, one through `reason_owned` -/
example : ((ByeBuilder.new.setPadding 4).addSource 7).reasonOwned [0x61]
    = ((ByeBuilder.new.setReason [0x61]).addSource 7).setPadding 4 := by decide

end Rtcp.Props
