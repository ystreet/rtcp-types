/-
  Writer refinement (DESIGN §3.2): every built-in builder satisfies the writer contract with its
  RFC image `Spec.*Image` (C06, C07, C17, and the build half of the round trips), plus the public
  writer helpers of utils.rs for all parameters (C19).

  STATEMENTS ARE FIXED. Each is read off the lemmas of Rtcp/Proofs/*.lean in a few lines.
-/
import Rtcp.Props.WriterContract
import Rtcp.Spec.All
import Rtcp.Proofs.WritersFixed
import Rtcp.Proofs.WritersSdes
import Rtcp.Proofs.WritersFci
import Rtcp.Proofs.SortedSet
import Rtcp.Proofs.WritersCompound

namespace Rtcp.Props
open Rtcp Rtcp.Impl Rtcp.Spec

/-! ## utils::writer helpers, for all parameters (C19) -/

/-- `write_header_unchecked`: any buffer of at least 4 bytes, any count up to 31. -/
theorem writeHeader_spec {ε : Type} (pt padding count : UInt8) (buf : Bytes)
    (h4 : 4 ≤ buf.length) (hc : count.toNat ≤ 31) :
    (writeHeader pt padding count buf : R ε Bytes)
      = .ok (Spec.header pt (padding != 0) count.toNat buf.length ++ buf.drop 4) :=
  Proofs.writeHeader_eq pt padding count buf h4 hc

/-- `write_header_unchecked` panics exactly on buffers shorter than 4 bytes. -/
theorem writeHeader_panic_iff {ε : Type} (pt padding count : UInt8) (buf : Bytes) :
    (writeHeader pt padding count buf : R ε Bytes) = .panic ↔ buf.length < 4 := by
  refine ⟨fun h => Nat.lt_of_not_le fun h4 => ?_, fun h => ?_⟩
  · rw [Proofs.writeHeader_ok _ _ _ _ h4] at h
    cases h
  · -- the two stores keep the length, then `len / 4 - 1` underflows
    exact Proofs.setByte_bind_panic fun b1 h1 => Proofs.setByte_bind_panic fun b2 h2 => by
      rw [usub, if_neg (by omega)]; rfl

/-- `write_padding_unchecked`: writes the RFC trailer at the start of `buf`, returns its size. -/
theorem writePadding_spec {ε : Type} (padding : UInt8) (buf : Bytes) (h : padding.toNat ≤ buf.length) :
    (writePadding padding buf : R ε (Bytes × Nat))
      = .ok (Spec.trailer padding ++ buf.drop padding.toNat, padding.toNat) :=
  Proofs.writePadding_eq padding buf h

/-- `check_padding` accepts exactly the multiples of 4. -/
theorem checkPadding_ok_iff (p : UInt8) : checkPadding p = .ok () ↔ p.toNat % 4 = 0 :=
  Proofs.checkPadding_ok_iff_mod p

/-! ## fixed-layout builders -/

theorem rb_refines (b : ReportBlockBuilder) :
    Refines ⟨b.calcSize, b.writeUnchecked, none⟩ (rbImage b) :=
  Proofs.FirstErr.refines (Proofs.rb_calcSize b) fun _ => ⟨Proofs.rbImage_length b, Proofs.rb_fills b⟩

theorem sr_refines (b : SrBuilder) : Refines b.toWriter (srImage b) :=
  Proofs.FirstErr.refines (Proofs.sr_calcSize b) fun hr =>
    ⟨Proofs.srImage_length b, Proofs.sr_fills b (Proofs.srRules_nil.mp hr).1⟩
theorem rr_refines (b : RrBuilder) : Refines b.toWriter (rrImage b) :=
  Proofs.FirstErr.refines (Proofs.rr_calcSize b) fun hr =>
    ⟨Proofs.rrImage_length b, Proofs.rr_fills b (Proofs.rrRules_nil.mp hr).1⟩
theorem app_refines (b : AppBuilder) : Refines b.toWriter (appImage b) :=
  Proofs.FirstErr.refines (Proofs.app_calcSize b) fun hr =>
    have ⟨hs, ⟨hn, _⟩, _⟩ := Proofs.appRules_nil.mp hr
    ⟨Proofs.appImage_length b hn, Proofs.app_fills b hs hn⟩
theorem bye_refines (b : ByeBuilder) : Refines b.toWriter (byeImage b) :=
  Proofs.FirstErr.refines (Proofs.bye_calcSize b) fun hr =>
    ⟨Proofs.byeImage_length b, Proofs.bye_fills b (Proofs.byeRules_nil.mp hr).1⟩
theorem unknown_refines (b : UnknownBuilder) : Refines b.toWriter (unknownImage b) :=
  Proofs.FirstErr.refines (Proofs.unknown_calcSize b) fun hr =>
    ⟨Proofs.packet_length .., Proofs.unknown_fills b (Proofs.unknownRules_nil.mp hr).1⟩

/-- the third-party family, built only from the public helpers -/
theorem custom_refines (b : CustomBuilder) : Refines b.toWriter (customImage b) :=
  Proofs.FirstErr.refines (Proofs.custom_calcSize b) fun _ => ⟨Proofs.customImage_length b, Proofs.custom_fills b⟩

/-! ## variable-layout builders -/

theorem item_refines (b : SdesItemBuilder) :
    Refines ⟨b.calcSize, b.writeUnchecked, none⟩ (itemImage b) :=
  Proofs.FirstErr.refines (Proofs.item_calcSize b) fun _ => ⟨rfl, (Proofs.item_writes b).fills⟩

theorem chunk_refines (b : SdesChunkBuilder) :
    Refines ⟨b.calcSize, b.writeUnchecked, none⟩ (chunkImage b) := Proofs.chunk_refines b

theorem sdes_refines (b : SdesBuilder) : Refines b.toWriter (sdesImage b) := Proofs.sdes_refines b

/-- the NACK set is a strictly ascending list (the `BTreeSet` invariant) -/
def NackSorted (b : NackBuilder) : Prop := b.rtpSeq.Pairwise (· < ·)

theorem nack_sorted_empty : NackSorted {} := List.Pairwise.nil
theorem nack_sorted_add (b : NackBuilder) (s : UInt16) (h : NackSorted b) : NackSorted (b.addRtpSequence s) :=
  Proofs.sortedInsert_pairwise s h

theorem nack_refines (b : NackBuilder) (h : NackSorted b) : Refines b.toFci.w (nackImage b) :=
  Proofs.fci_refines (.nack b) h
theorem fir_refines (b : FirBuilder) : Refines b.toFci.w (firImage b) := Proofs.fci_refines (.fir b) trivial
theorem sli_refines (b : SliBuilder) : Refines b.toFci.w (sliImage b) := Proofs.fci_refines (.sli b) trivial
theorem rpsi_refines (b : RpsiBuilder) : Refines b.toFci.w (rpsiImage b) := Proofs.fci_refines (.rpsi b) trivial
theorem pli_refines : Refines pliFci.w [] := Proofs.fci_refines .pli trivial

/-- the invariant of the built-in FCI builders -/
def FciOk (f : FciB) : Prop :=
  match f with
  | .nack b => b.rtpSeq.Pairwise (· < ·)
  | _ => True

/-- every feedback builder × FCI builder pairing, both kinds (wrong-kind pairings fail in
    `calcSize`, so the contract holds vacuously for them) -/
theorem fb_refines (k : FbKind) (f : FciB) (hf : FciOk f) (p : UInt8) (s m : UInt32) :
    Refines (FbBuilder.toWriter ⟨k, f.toFci, p, s, m⟩) (fbImage k f p s m) :=
  Proofs.FirstErr.refines (Proofs.fb_calcSize k f hf p s m) fun hr =>
    ⟨Proofs.fbImage_length k f p s m, Proofs.fb_fills k f hf p s m (Proofs.fbRules_nil.mp hr).2.1⟩

/-! ## compound -/

/-- members, each with its image -/
def AllRefine (ms : List Writer) (imgs : List Bytes) : Prop :=
  ms.length = imgs.length ∧ ∀ i (h1 : i < ms.length) (h2 : i < imgs.length), Refines ms[i] imgs[i]

/-- C14 (bytes): a compound of well-behaved members writes the concatenation of their images -/
theorem compound_refines (ms : List Writer) (imgs : List Bytes) (h : AllRefine ms imgs) :
    Refines (CompoundBuilder.toWriter ms) imgs.flatten := Proofs.compound_refines ms imgs h

/-- C14 (size): the size is the sum of the members' sizes -/
theorem compound_size_sum (ms : List Writer) (n : Nat) (h : CompoundBuilder.calcSize ms = .ok n) :
    ∃ sizes : List Nat, sizes.length = ms.length ∧ sizes.sum = n ∧
      ∀ i (hi : i < ms.length), ms[i].calcSize = .ok (sizes.getD i 0) := by
  obtain ⟨hs, hsum, -⟩ := (Proofs.sizeLoop_ok_iff _ ms 0 0 n).mp h
  refine ⟨ms.map Proofs.sizeD, List.length_map _, (Nat.zero_add _).symm.trans hsum, fun i hi => ?_⟩
  obtain ⟨k, hk⟩ := hs _ (List.getElem_mem hi)
  rw [List.getD_eq_getElem?_getD, List.getElem?_map, List.getElem?_eq_getElem hi, Option.map_some, Option.getD_some,
    Proofs.sizeD_ok hk, hk]

/-- C14/C16 (acceptance): building succeeds exactly when every member is valid and no member
    other than the last requests padding -/
theorem compound_accept_iff (ms : List Writer) (hnp : ∀ m ∈ ms, m.calcSize ≠ .panic) :
    (∃ n, CompoundBuilder.calcSize ms = .ok n) ↔
      (∀ m ∈ ms, ∃ k, m.calcSize = .ok k) ∧
      (∀ i (hi : i < ms.length), i + 1 < ms.length → (ms[i].getPadding.getD 0) = 0) :=
  Proofs.compound_accept_iff ms hnp

end Rtcp.Props
