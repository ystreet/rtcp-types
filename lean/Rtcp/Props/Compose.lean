/-
  C14 (parse back): the bytes of a non-empty compound — the concatenation of its members' images
  (`compound_refines`, Props/Writers.lean) — are accepted by `Compound::parse`, and iterating them
  yields one packet per member, in order, each equal to the member parsed on its own.  Holds for
  every list of member images that are framed packets; the image of every built-in builder (and of
  the third-party family) is one, so it holds for every compound of built-in members, nested
  compounds contributing their own members (`List.flatten` of the leaf images).

  STATEMENTS ARE FIXED. Each is read off the lemmas of Rtcp/Proofs/*.lean in a few lines.
-/
import Rtcp.Spec.All
import Rtcp.Proofs.Compose
import Rtcp.Proofs.RoundTrip
import Rtcp.Proofs.SdesEncode
import Rtcp.Proofs.ParsersDispatch

namespace Rtcp.Props
open Rtcp Rtcp.Impl Rtcp.Spec


/-- the concatenation of tiles tiles back into exactly those tiles -/
theorem tiling_flatten (imgs : List Bytes) (h : ∀ t ∈ imgs, Tile t) :
    tiling imgs.flatten = some imgs := Proofs.tiling_flatten imgs h

/-- never more tiles than 32-bit words: the bound on the number of iterator steps (C01) -/
theorem tiling_length_le (bs : Bytes) (ts : List Bytes) (h : tiling bs = some ts) :
    4 * ts.length ≤ bs.length := Proofs.tiling_length_le bs ts h

/-- parse back: accepted, and iteration yields exactly `Packet::parse` of each member image, in
    order, up to and including the first one that fails -/
theorem compound_parse_back {ε : Type} (imgs : List Bytes) (hne : imgs ≠ []) (h : ∀ t ∈ imgs, Tile t)
    (hnp : ∀ t ∈ imgs, Packet.parse t ≠ .panic) (fuel : Nat) (hf : imgs.length < fuel) :
    Compound.parse imgs.flatten = .ok ⟨imgs.flatten, 0, false⟩ ∧
    ∃ items c', (Compound.collect fuel ⟨imgs.flatten, 0, false⟩ [] : R ε _) = .ok (items, true, c') ∧
      items.map (·.1) = throughFirstErr (imgs.map Packet.parse) ∧ c'.isOver = true :=
  Proofs.compound_parse_back imgs hne h hnp fuel hf

/-- when every member parses on its own: one packet per member, each equal to the member parsed alone,
    at the offset where the member's image starts -/
theorem compound_parse_back_all {ε : Type} (imgs : List Bytes) (hne : imgs ≠ []) (h : ∀ t ∈ imgs, Tile t)
    (hok : ∀ t ∈ imgs, ∃ p, Packet.parse t = .ok p) (fuel : Nat) (hf : imgs.length < fuel) :
    ∃ items c', (Compound.collect fuel ⟨imgs.flatten, 0, false⟩ [] : R ε _) = .ok (items, true, c') ∧
      items.map (·.1) = imgs.map Packet.parse ∧ items.length = imgs.length :=
  Proofs.compound_parse_back_all imgs hne h hok fuel hf

/-! every built-in image is a tile that the generic parser accepts as the right variant -/

theorem sr_image_tile (b : SrBuilder) (h : srRules b = []) :
    Tile (srImage b) ∧ Packet.parse (srImage b) = .ok (.sr (srImage b)) :=
  Proofs.kind_parse_accepts (k := .sr) (congrArg (Packet.sr <$> ·) (Proofs.sr_roundtrip (ε := Empty) b h).1)
theorem rr_image_tile (b : RrBuilder) (h : rrRules b = []) :
    Tile (rrImage b) ∧ Packet.parse (rrImage b) = .ok (.rr (rrImage b)) :=
  Proofs.kind_parse_accepts (k := .rr) (congrArg (Packet.rr <$> ·) (Proofs.rr_roundtrip (ε := Empty) b h).1)
theorem bye_image_tile (b : ByeBuilder) (h : byeRules b = []) :
    Tile (byeImage b) ∧ Packet.parse (byeImage b) = .ok (.bye (byeImage b)) :=
  Proofs.kind_parse_accepts (k := .bye) (congrArg (Packet.bye <$> ·) (Proofs.bye_roundtrip (ε := Empty) b h).1)
theorem app_image_tile (b : AppBuilder) (h : appRules b = []) :
    Tile (appImage b) ∧ Packet.parse (appImage b) = .ok (.app (appImage b)) :=
  Proofs.kind_parse_accepts (k := .app) (congrArg (Packet.app <$> ·) (Proofs.app_roundtrip (ε := Empty) b h).1)
theorem sdes_image_tile (b : SdesBuilder) (h : sdesRules b = [])
    (hz : ∀ c ∈ b.chunks, ∀ it ∈ c.items, it.type ≠ 0) :
    Tile (sdesImage b) ∧ ∃ v, Packet.parse (sdesImage b) = .ok (.sdes v) ∧ v.data = sdesImage b :=
  let ⟨v, hp, _⟩ := Proofs.sdes_roundtrip (ε := Empty) b h hz
  have := Proofs.kind_parse_accepts (k := .sdes) (congrArg (Packet.sdes <$> ·) hp)
  ⟨this.1, v, this.2, (Proofs.sdes_parse_accepts _ _ hp).1⟩
theorem fb_image_tile (k : FbKind) (f : FciB) (p : UInt8) (s m : UInt32) (h : fbRules k f p = []) :
    Tile (fbImage k f p s m) ∧
    Packet.parse (fbImage k f p s m) =
      .ok (match k with | .transport => .tfb (fbImage k f p s m) | .payload => .pfb (fbImage k f p s m)) := by
  have hp := Proofs.fb_parse_image k f p s m h
  cases k
  · exact Proofs.kind_parse_accepts (k := .tfb) (congrArg (Packet.tfb <$> ·) hp)
  · exact Proofs.kind_parse_accepts (k := .pfb) (congrArg (Packet.pfb <$> ·) hp)
theorem unknown_image_tile (b : UnknownBuilder) (h : unknownRules b = []) :
    Tile (unknownImage b) :=
  Proofs.tile_of_size (Proofs.packet_length ..) (Proofs.unknown_size (h ▸ Proofs.unknown_calcSize b))
theorem custom_image_tile (b : CustomBuilder) (h : customRules b = []) (h4 : 4 ≤ b.min) (hm : b.min % 4 = 0)
    (hs : b.bodyEnd + b.padding.toNat ≤ 262144) : Tile (customImage b) :=
  (Proofs.wf_len
    ((Proofs.custom_outcome _ _ h4 _).accepts.mp (Proofs.custom_roundtrip (ε := Empty) b h h4 hm hs).1).1).2

/-- non-vacuity: RR (empty) followed by a BYE with one source -/
example : Tile [0x80, 201, 0, 1, 0, 0, 0, 1] ∧ Tile [0x81, 203, 0, 1, 0, 0, 0, 1] := by decide

end Rtcp.Props
