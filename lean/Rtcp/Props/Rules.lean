/-
  C16: size calculation fails exactly when a rule of Spec/Rules.lean is violated, the error names
  one of the violated rules with the offending value, and it never panics.  Also: whole-packet
  sizes are multiples of 4 (C06).

  STATEMENTS ARE FIXED. Each is read off the closed form of its size calculation (Rtcp/Proofs/Rules.lean).
-/
import Rtcp.Spec.All
import Rtcp.Proofs.Rules

namespace Rtcp.Props
open Rtcp Rtcp.Impl Rtcp.Spec

theorem rb_rules (b : ReportBlockBuilder) : Decides b.calcSize (rbRules b) := Proofs.FirstErr.decides (Proofs.rb_calcSize b)
theorem sr_rules (b : SrBuilder) : Decides b.calcSize (srRules b) := Proofs.FirstErr.decides (Proofs.sr_calcSize b)
theorem rr_rules (b : RrBuilder) : Decides b.calcSize (rrRules b) := Proofs.FirstErr.decides (Proofs.rr_calcSize b)
theorem bye_rules (b : ByeBuilder) : Decides b.calcSize (byeRules b) := Proofs.FirstErr.decides (Proofs.bye_calcSize b)
theorem app_rules (b : AppBuilder) : Decides b.calcSize (appRules b) := Proofs.FirstErr.decides (Proofs.app_calcSize b)
theorem item_rules (b : SdesItemBuilder) : Decides b.calcSize (itemRules b) := Proofs.FirstErr.decides (Proofs.item_calcSize b)
theorem chunk_rules (b : SdesChunkBuilder) : Decides b.calcSize (chunkRules b) := Proofs.FirstErr.decides (Proofs.chunk_calcSize b)
theorem sdes_rules (b : SdesBuilder) : Decides b.calcSize (sdesRules b) := Proofs.FirstErr.decides (Proofs.sdes_calcSize b)
theorem unknown_rules (b : UnknownBuilder) : Decides b.calcSize (unknownRules b) := Proofs.FirstErr.decides (Proofs.unknown_calcSize b)
theorem custom_rules (b : CustomBuilder) : Decides b.calcSize (customRules b) := Proofs.FirstErr.decides (Proofs.custom_calcSize b)
theorem rpsi_rules (b : RpsiBuilder) : Decides b.calcSize (rpsiRules b) := Proofs.FirstErr.decides (Proofs.rpsi_calcSize b)

/-- the five built-in FCI builders (the NACK set being the ascending list it always is) -/
theorem fci_rules (f : FciB) (hf : match f with | .nack b => b.rtpSeq.Pairwise (· < ·) | _ => True) :
    Decides f.toFci.w.calcSize (fciRules f) := Proofs.FirstErr.decides (Proofs.fci_calcSize f hf)

/-- every feedback builder × FCI pairing, both kinds: wrong-kind pairings are refused -/
theorem fb_rules (k : FbKind) (f : FciB) (hf : match f with | .nack b => b.rtpSeq.Pairwise (· < ·) | _ => True)
    (p : UInt8) (s m : UInt32) :
    Decides (FbBuilder.calcSize ⟨k, f.toFci, p, s, m⟩) (fbRules k f p) := Proofs.FirstErr.decides (Proofs.fb_calcSize k f hf p s m)

/-! whole-packet sizes are multiples of 4 (C06) -/

theorem sr_size_mod4 (b : SrBuilder) (n : Nat) (h : b.calcSize = .ok n) : n % 4 = 0 := (Proofs.sr_size h).1
theorem rr_size_mod4 (b : RrBuilder) (n : Nat) (h : b.calcSize = .ok n) : n % 4 = 0 := (Proofs.rr_size h).1
theorem bye_size_mod4 (b : ByeBuilder) (n : Nat) (h : b.calcSize = .ok n) : n % 4 = 0 := (Proofs.bye_size h).1
theorem app_size_mod4 (b : AppBuilder) (n : Nat) (h : b.calcSize = .ok n) : n % 4 = 0 := (Proofs.app_size h).1
theorem sdes_size_mod4 (b : SdesBuilder) (n : Nat) (h : b.calcSize = .ok n) : n % 4 = 0 := (Proofs.sdes_size h).1
theorem unknown_size_mod4 (b : UnknownBuilder) (n : Nat) (h : b.calcSize = .ok n) : n % 4 = 0 :=
  (Proofs.unknown_size h).1
theorem fb_size_mod4 (k : FbKind) (f : FciB) (p : UInt8) (s m : UInt32) (n : Nat)
    (h : FbBuilder.calcSize ⟨k, f.toFci, p, s, m⟩ = .ok n) : n % 4 = 0 := (Proofs.fb_size h).1

/-- every accepted whole packet fits the 16-bit length field: at most 65536 words -/
theorem sizes_bounded :
    (∀ (b : SrBuilder) n, b.calcSize = .ok n → n ≤ 262144) ∧
    (∀ (b : RrBuilder) n, b.calcSize = .ok n → n ≤ 262144) ∧
    (∀ (b : ByeBuilder) n, b.calcSize = .ok n → n ≤ 262144) ∧
    (∀ (b : AppBuilder) n, b.calcSize = .ok n → n ≤ 262144) ∧
    (∀ (b : SdesBuilder) n, b.calcSize = .ok n → n ≤ 262144) ∧
    (∀ (b : UnknownBuilder) n, b.calcSize = .ok n → n ≤ 262144) ∧
    (∀ (b : FbBuilder) n, b.calcSize = .ok n → n ≤ 262144) := Proofs.sizes_bounded

end Rtcp.Props
