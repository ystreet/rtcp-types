/-
  End-to-end compositions and remaining error / bound clauses, stated over the model:

  * C05: what a feedback builder is given comes back out of `parse_fci::<F>()` on the bytes of the
    packet image, through the real iterators (`Nack.entries`, `Fir.entries`, `Sli.lostMacroblocks`,
    `Rpsi.payloadType` / `bitString`), not only through the reference decoders;
  * C18: the errors of the FCI parsers, of `parse_fci` and of the generic packet parser are truthful;
  * C13: padding is transparent through the generic packet parser as well;
  * C11: every item the compound iterator yields sits at the offset where its tile starts;
  * C01: the eager SDES lists are bounded by the input length.

  STATEMENTS ARE FIXED. Each is read off the lemmas of Rtcp/Proofs/*.lean in a few lines.
-/
import Rtcp.Spec.All
import Rtcp.Props.Writers
import Rtcp.Proofs.EndToEnd
import Rtcp.Proofs.Padding
import Rtcp.Proofs.CompoundParse

namespace Rtcp.Props
open Rtcp Rtcp.Impl Rtcp.Spec

/-! ## C05 end to end -/

/-- generic NACK: exactly the set, ascending, each once — through the packet parser, the FCI
    extraction and the iterator state machine -/
theorem fb_nack_end_to_end {ε : Type} (b : NackBuilder) (hs : NackSorted b) (p : UInt8) (s m : UInt32)
    (h : fbRules .transport (.nack b) p = []) :
    let img := fbImage .transport (.nack b) p s m
    Fb.parse .transport img = .ok img ∧
    ∃ d, Fb.parseFci .transport .nack img = .ok d ∧
      (Nack.entries d : R ε (List UInt16 × Bool)) = .ok (b.rtpSeq, true) :=
  have ⟨h1, h2⟩ := Proofs.fb_fci_end_to_end .transport (.nack b) hs trivial p s m h
  ⟨h1, _, h2, Proofs.nack_codec b hs⟩

/-- FIR: the (SSRC, sequence) entries in map order; `hne` because an empty FIR is refused by the
    FCI parser (known finding, `empty_fir_refused`) -/
theorem fb_fir_end_to_end {ε : Type} (b : FirBuilder) (hne : b.ssrcSeq ≠ []) (p : UInt8) (s m : UInt32)
    (h : fbRules .payload (.fir b) p = []) :
    let img := fbImage .payload (.fir b) p s m
    Fb.parse .payload img = .ok img ∧
    ∃ d, Fb.parseFci .payload .fir img = .ok d ∧
      (Fir.entries d : R ε (List (UInt32 × UInt8) × Bool)) = .ok (b.ssrcSeq, true) :=
  have ⟨h1, h2⟩ := Proofs.fb_fci_end_to_end .payload (.fir b) trivial hne p s m h
  ⟨h1, _, h2, Proofs.fir_codec b⟩

/-- SLI: the same entries in order, within the 13/13/6-bit ranges; non-empty (known finding) -/
theorem fb_sli_end_to_end {ε : Type} (b : SliBuilder) (hne : b.lostMbs ≠ [])
    (hr : ∀ e ∈ b.lostMbs, e.start.toNat < 8192 ∧ e.count.toNat < 8192 ∧ e.pictureId.toNat < 64)
    (p : UInt8) (s m : UInt32) (h : fbRules .payload (.sli b) p = []) :
    let img := fbImage .payload (.sli b) p s m
    Fb.parse .payload img = .ok img ∧
    ∃ d, Fb.parseFci .payload .sli img = .ok d ∧
      (Sli.lostMacroblocks d : R ε (List MacroBlockEntry × Bool)) = .ok (b.lostMbs, true) :=
  have ⟨h1, h2⟩ := Proofs.fb_fci_end_to_end .payload (.sli b) trivial hne p s m h
  ⟨h1, _, h2, Proofs.sli_codec b hr⟩

/-- RPSI: the payload type and, bit for bit, the bit string that was put in -/
theorem fb_rpsi_end_to_end {ε : Type} (b : RpsiBuilder) (p : UInt8) (s m : UInt32)
    (h : fbRules .payload (.rpsi b) p = []) :
    let img := fbImage .payload (.rpsi b) p s m
    Fb.parse .payload img = .ok img ∧
    ∃ d sl k, Fb.parseFci .payload .rpsi img = .ok d ∧
      (Rpsi.payloadType d : R ε UInt8) = .ok b.payloadType ∧
      (Rpsi.bitString 0 d : R ε (Slice × Nat)) = .ok (sl, k) ∧
      (bitsOf sl.bytes).take (8 * sl.bytes.length - k) = rpsiBits b.nativeBitString b.nativeBitOverrun.toNat :=
  have ⟨h1, h2⟩ := Proofs.fb_fci_end_to_end .payload (.rpsi b) trivial trivial p s m h
  have ⟨sl, k, hc⟩ := Proofs.rpsi_codec (ε := ε) b (Proofs.fbRules_nil.mp h).2.2.1
  ⟨h1, _, sl, k, h2, hc⟩

/-- PLI: accepted with an empty body -/
theorem fb_pli_end_to_end (p : UInt8) (s m : UInt32) (h : fbRules .payload .pli p = []) :
    let img := fbImage .payload .pli p s m
    Fb.parse .payload img = .ok img ∧ Fb.parseFci .payload .pli img = .ok [] :=
  Proofs.fb_fci_end_to_end .payload .pli trivial trivial p s m h

/-! ## C18: remaining parsers -/

/-- the FCI parsers' own errors -/
theorem fci_err_truthful (f : Fb.FciType) (d : Bytes) (e : ParseError) (h : f.parse d = .err e) :
    (∃ ex, e = .truncated ex d.length ∧ d.length < ex) ∨ (e = .tooLarge 0 d.length ∧ 0 < d.length) :=
  have ⟨_, ho⟩ := Proofs.fci_outcome f d; ho.of_err h

/-- `parse_fci::<F>` on an accepted feedback packet: wrong kind / format, or the FCI parser's
    truthful error about the FCI region -/
theorem parseFci_err_truthful (k : FbKind) (f : Fb.FciType) (d : Bytes) (e : ParseError)
    (hp : Fb.parse k d = .ok d) (h : Fb.parseFci k f d = .err e) :
    e = .wrongImplementation ∨ (∃ ex a, e = .truncated ex a ∧ a < ex) ∨ (∃ a, e = .tooLarge 0 a ∧ 0 < a) := by
  rw [Proofs.parseFci_eq k f d hp] at h
  split at h
  · rcases fci_err_truthful f _ e h with ⟨ex, h1, h2⟩ | ⟨h1, h2⟩
    · exact .inr (.inl ⟨ex, _, h1, h2⟩)
    · exact .inr (.inr ⟨_, h1, h2⟩)
  · exact .inl (R.err.inj h).symm

/-- the generic parser never reports a type mismatch, and everything else it reports is truthful
    for the type octet of the input -/
theorem packet_err_truthful (bs : Bytes) (e : ParseError) (h : Packet.parse bs = .err e) :
    ErrorTruthful bs (ptype bs) e ∧ (∀ a r, e ≠ .packetTypeMismatch a r) := (Proofs.packet_parses bs).of_err h

/-! ## C13 through the generic parser -/

theorem packet_pad_transparent (p : Bytes) (n : Nat) (pk : Packet) (h : Packet.parse p = .ok pk)
    (hk : pk.kind? ≠ none) (hn : PadOk p n) :
    ∃ pk', Packet.parse (addPadding p n) = .ok pk' ∧ pk'.kind? = pk.kind? ∧ pk'.data = addPadding p n :=
  Proofs.packet_pad (Proofs.Pad.facts p n ((Proofs.packet_parses p).of_ok h).1 hn) pk h hk

/-! ## C11: offsets -/

/-- the i-th yielded item sits at the offset where the i-th tile starts -/
theorem compound_iter_offsets {ε : Type} (bs : Bytes) (ts : List Bytes) (hne : bs ≠ []) (ht : tiling bs = some ts)
    (hnp : ∀ t ∈ ts, Packet.parse t ≠ .panic) (fuel : Nat) (hf : ts.length < fuel) :
    ∃ items c', (Compound.collect fuel ⟨bs, 0, false⟩ [] : R ε _) = .ok (items, true, c') ∧
      ∀ i (hi : i < items.length), (items[i]).2 = ((ts.take i).map List.length).sum :=
  let ⟨c', e, _⟩ := Proofs.compound_collect_tiling (ε := ε) bs ts hne ht hnp fuel hf
  ⟨_, c', e, fun i hi => (Proofs.tileItems_offset 0 ts i hi).trans (Nat.zero_add _)⟩

/-! ## C01: eager SDES lists are bounded by the input -/

theorem sdes_sizes_bounded (bs : Bytes) (v : Sdes) (h : Sdes.parse bs = .ok v) :
    4 * v.chunks.length ≤ bs.length ∧ 2 * ((v.chunks.map (·.items.length)).sum) ≤ bs.length := by
  obtain ⟨-, -, hpl, ht, -⟩ := Proofs.sdes_parse_accepts bs v h
  have := Proofs.refChunks_size _ _ _ ht
  rw [List.length_map, List.map_map, sdesBody, Proofs.Read.range_length bs 4 _ (Nat.sub_le _ _)] at this
  simp only [Function.comp_def, chunkAsRef, List.length_map] at this
  omega

/-- non-vacuity of the NACK end-to-end statement: three numbers spanning the 17-value window -/
example : NackSorted ⟨[1, 2, 18]⟩ ∧ fbRules .transport (.nack ⟨[1, 2, 18]⟩) 4 = [] := by
  constructor
  · unfold NackSorted; decide
  · decide

end Rtcp.Props
