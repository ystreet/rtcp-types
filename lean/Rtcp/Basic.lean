/-
  Basic vocabulary of the model: byte strings, the three-valued result `R` (value / error / panic),
  slice and buffer primitives that mirror Rust's checked indexing, big-endian codecs and the two
  error enums of `rtcp-types` (lib.rs:97-242), constructor by constructor.

  Nothing here is totalised: an out-of-bounds index, a `copy_from_slice` length mismatch or a
  `usize` underflow is the explicit outcome `R.panic`.
-/
namespace Rtcp

abbrev Bytes := List UInt8

/-- Outcome of a modelled Rust call: a value, an `Err(e)`, or a panic (unwinding). -/
inductive R (ε : Type) (α : Type) where
  | ok (a : α)
  | err (e : ε)
  | panic
deriving DecidableEq, Repr

namespace R

@[inline] def bind {ε α β : Type} (x : R ε α) (f : α → R ε β) : R ε β :=
  match x with
  | .ok a => f a
  | .err e => .err e
  | .panic => .panic

instance {ε : Type} : Monad (R ε) where
  pure := .ok
  bind := bind

@[simp] theorem pure_eq {ε α : Type} (a : α) : (pure a : R ε α) = .ok a := rfl
@[simp] theorem ok_bind {ε α β : Type} (a : α) (f : α → R ε β) : ((R.ok a : R ε α) >>= f) = f a := rfl
@[simp] theorem err_bind {ε α β : Type} (e : ε) (f : α → R ε β) : ((R.err e : R ε α) >>= f) = .err e := rfl
@[simp] theorem panic_bind {ε α β : Type} (f : α → R ε β) : ((R.panic : R ε α) >>= f) = .panic := rfl
@[simp] theorem map_ok {ε α β : Type} (a : α) (f : α → β) : (f <$> (R.ok a : R ε α)) = .ok (f a) := rfl
@[simp] theorem map_err {ε α β : Type} (e : ε) (f : α → β) : (f <$> (R.err e : R ε α)) = .err e := rfl
@[simp] theorem map_panic {ε α β : Type} (f : α → β) : (f <$> (R.panic : R ε α)) = .panic := rfl

/-- getting past `if c { return Err(e) }` -/
theorem of_ite_err {ε α : Type} {c : Prop} [Decidable c] {e : ε} {k : R ε α} {v : α}
    (h : (if c then .err e else k) = .ok v) : ¬ c ∧ k = .ok v := by
  split at h
  · cases h
  · exact ⟨‹_›, h⟩

/-- getting past `let a = x?;` -/
theorem of_bind {ε α β : Type} {x : R ε α} {f : α → R ε β} {v : β} (h : x >>= f = .ok v) :
    ∃ a, x = .ok a ∧ f a = .ok v := by
  cases x with
  | ok a => exact ⟨a, rfl, h⟩
  | err e => cases h
  | panic => cases h

theorem bind_assoc {ε α β γ : Type} (x : R ε α) (f : α → R ε β) (g : β → R ε γ) :
    x >>= f >>= g = x >>= fun a => f a >>= g := by
  cases x <;> rfl

theorem ne_panic_of_ok {ε α : Type} {x : R ε α} {a : α} (h : x = .ok a) : x ≠ .panic :=
  h ▸ nofun

def isOk {ε α : Type} : R ε α → Bool
  | .ok _ => true
  | _ => false

/-- Change the error type of a computation that cannot fail with `err` in a meaningful way. -/
def liftErr {ε ε' α : Type} (f : ε → ε') : R ε α → R ε' α
  | .ok a => .ok a
  | .err e => .err (f e)
  | .panic => .panic

end R

/-! ## Errors (lib.rs) -/

inductive ParseError where
  | unsupportedVersion (v : UInt8)
  | truncated (expected actual : Nat)
  | tooLarge (expected actual : Nat)
  | invalidPadding
  | sdesValueTooLarge (len : Nat) (max : UInt8)
  | sdesPrivContentTruncated (len : Nat) (min : UInt8)
  | sdesPrivPrefixTooLarge (len : Nat) (available : UInt8)
  | wrongImplementation
  | packetTypeMismatch (actual requested : UInt8)
deriving DecidableEq, Repr

inductive WriteError where
  | outputTooSmall (n : Nat)
  | invalidPadding (padding : UInt8)
  | appSubtypeOutOfRange (subtype max : UInt8)
  | invalidName
  | dataLen32bitMultiple (n : Nat)
  | tooManySources (count : Nat) (max : UInt8)
  | reasonLenTooLarge (len : Nat) (max : UInt8)
  | cumulativeLostTooLarge (value max : UInt32)
  | tooManyReportBlocks (count : Nat) (max : UInt8)
  | tooManySdesChunks (count : Nat) (max : UInt8)
  | sdesValueTooLarge (len : Nat) (max : UInt8)
  | sdesPrivPrefixTooLarge (len : Nat) (max : UInt8)
  | countOutOfRange (count max : UInt8)
  | nonLastCompoundPacketPadding
  | missingFci
  | tooManyNack
  | fciWrongFeedbackPacketType
  | payloadTypeInvalid
  | paddingBitsTooLarge
  | tooManyFir
  | packetTooLarge (size max : Nat)
deriving DecidableEq, Repr

/-! ## Reading: checked indexing and slicing -/

/-- `bs[i]` -/
def idx {ε : Type} (bs : Bytes) (i : Nat) : R ε UInt8 :=
  match bs[i]? with
  | some b => .ok b
  | none => .panic

/-- `&bs[a..b]` -/
def slice {ε : Type} (bs : Bytes) (a b : Nat) : R ε Bytes :=
  if a ≤ b ∧ b ≤ bs.length then .ok ((bs.take b).drop a) else .panic

/-- `&bs[a..]` -/
def sliceFrom {ε : Type} (bs : Bytes) (a : Nat) : R ε Bytes :=
  if a ≤ bs.length then .ok (bs.drop a) else .panic

/-- A sub-slice handed out by an accessor: where it starts in the caller's input, and its bytes.
    (Rust returns a pointer into the input; the model returns the offset.) -/
structure Slice where
  off : Nat
  bytes : Bytes
deriving DecidableEq, Repr

/-- `&bs[a..b]` as a `Slice`, with `base` the offset of `bs` itself in the outermost input. -/
def sliceS {ε : Type} (base : Nat) (bs : Bytes) (a b : Nat) : R ε Slice :=
  if a ≤ b ∧ b ≤ bs.length then .ok ⟨base + a, (bs.take b).drop a⟩ else .panic

/-- `a - b` on `usize` with overflow checks. -/
def usub {ε : Type} (a b : Nat) : R ε Nat :=
  if b ≤ a then .ok (a - b) else .panic

/-! ## Big-endian codecs (`to_be_bytes` / `from_be_bytes`) as arithmetic on `toNat` -/

def be16 (x : UInt16) : Bytes :=
  let n := x.toNat
  [(n / 256 % 256).toUInt8, (n % 256).toUInt8]

def be32 (x : UInt32) : Bytes :=
  let n := x.toNat
  [(n / 16777216 % 256).toUInt8, (n / 65536 % 256).toUInt8, (n / 256 % 256).toUInt8, (n % 256).toUInt8]

def be64 (x : UInt64) : Bytes :=
  be32 (x.toNat / 4294967296 % 4294967296).toUInt32 ++ be32 (x.toNat % 4294967296).toUInt32

/-- `u16::from_be_bytes(bytes.try_into().expect(..))`: panics unless exactly 2 bytes. -/
def fromBe16 {ε : Type} : Bytes → R ε UInt16
  | [a, b] => .ok (a.toNat * 256 + b.toNat).toUInt16
  | _ => .panic

def fromBe32 {ε : Type} : Bytes → R ε UInt32
  | [a, b, c, d] => .ok (a.toNat * 16777216 + b.toNat * 65536 + c.toNat * 256 + d.toNat).toUInt32
  | _ => .panic

def fromBe64 {ε : Type} : Bytes → R ε UInt64
  | [a, b, c, d, e, f, g, h] =>
    .ok (((a.toNat * 16777216 + b.toNat * 65536 + c.toNat * 256 + d.toNat) * 4294967296)
        + (e.toNat * 16777216 + f.toNat * 65536 + g.toNat * 256 + h.toNat)).toUInt64
  | _ => .panic

/-- `(num + 3) & !3` -/
def pad4 (n : Nat) : Nat := (n + 3) / 4 * 4

/-- `slice.chunks_exact(k)` -/
def chunksExact (k : Nat) (bs : Bytes) : List Bytes :=
  if h : 0 < k ∧ k ≤ bs.length then
    bs.take k :: chunksExact k (bs.drop k)
  else []
termination_by bs.length
decreasing_by simp [List.length_drop]; omega

/-! ## Writing: a `&mut [u8]` is a value in, a value out -/

/-- `buf[i] = v` -/
def setByte {ε : Type} (buf : Bytes) (i : Nat) (v : UInt8) : R ε Bytes :=
  if i < buf.length then .ok (buf.set i v) else .panic

/-- `buf[a..b].copy_from_slice(src)` -/
def copyAt {ε : Type} (buf : Bytes) (a b : Nat) (src : Bytes) : R ε Bytes :=
  if a ≤ b ∧ b ≤ buf.length ∧ b - a = src.length then
    .ok (buf.take a ++ src ++ buf.drop b)
  else .panic

/-- `buf[a..].copy_from_slice(src)` -/
def copyFrom {ε : Type} (buf : Bytes) (a : Nat) (src : Bytes) : R ε Bytes :=
  if a ≤ buf.length ∧ buf.length - a = src.length then
    .ok (buf.take a ++ src)
  else .panic

/-- `buf[a..b].fill(v)` -/
def fillAt {ε : Type} (buf : Bytes) (a b : Nat) (v : UInt8) : R ε Bytes :=
  if a ≤ b ∧ b ≤ buf.length then
    .ok (buf.take a ++ List.replicate (b - a) v ++ buf.drop b)
  else .panic

/-- `f(&mut buf[a..])`: run a writer on the tail and splice its result back. -/
def withTail {ε α : Type} (buf : Bytes) (a : Nat) (f : Bytes → R ε (Bytes × α)) : R ε (Bytes × α) :=
  if a ≤ buf.length then
    match f (buf.drop a) with
    | .ok (t, r) => .ok (buf.take a ++ t, r)
    | .err e => .err e
    | .panic => .panic
  else .panic

/-- `f(&mut buf[a..b])` -/
def withRange {ε α : Type} (buf : Bytes) (a b : Nat) (f : Bytes → R ε (Bytes × α)) : R ε (Bytes × α) :=
  if a ≤ b ∧ b ≤ buf.length then
    match f ((buf.take b).drop a) with
    | .ok (t, r) => .ok (buf.take a ++ t ++ buf.drop b, r)
    | .err e => .err e
    | .panic => .panic
  else .panic

end Rtcp
